import GroupbyVerif.Model.Scalar
import GroupbyVerif.Generated.ScalarFuncs
import GroupbyVerif.Generated.Constants

/-!
# Bridge: the definitions regenerated from /repo's current source equal the hand-written model

Re-checked on every run.  A source edit that changes a reducer's behaviour breaks the
corresponding theorem here (a *named obligation*); an edit that only re-arranges the code
is absorbed by the case-splitting proof.
-/

namespace GV.Bridge
open GV

/-- closes `generated = model` goals for if/let trees over `Val`, `Int` counts and `isNull` -/
macro "bridge_tac" : tactic =>
  `(tactic| (first
    | rfl
    | (funext k a b c
       cases a <;> cases b <;>
       simp only [Generated.ScalarFuncs.sum, Generated.ScalarFuncs.nansum, Generated.ScalarFuncs.nansum_squares,
         Generated.ScalarFuncs.max, Generated.ScalarFuncs.nanmax, Generated.ScalarFuncs.min,
         Generated.ScalarFuncs.nanmin, Generated.ScalarFuncs.nancount, Generated.ScalarFuncs.count,
         Generated.ScalarFuncs.first, Generated.ScalarFuncs.last,
         Scalar.sum, Scalar.nansum, Scalar.nansum_squares, Scalar.max, Scalar.nanmax, Scalar.min, Scalar.nanmin,
         Scalar.nancount, Scalar.count, Scalar.first, Scalar.last, nanR, vmaxC, vminC, vfirstC, vaddSq, id] <;>
       (repeat' split) <;> simp_all)))

theorem sum : Generated.ScalarFuncs.sum = Scalar.sum := by bridge_tac
theorem nansum : Generated.ScalarFuncs.nansum = Scalar.nansum := by bridge_tac
theorem nansum_squares : Generated.ScalarFuncs.nansum_squares = Scalar.nansum_squares := by bridge_tac
theorem max : Generated.ScalarFuncs.max = Scalar.max := by bridge_tac
theorem nanmax : Generated.ScalarFuncs.nanmax = Scalar.nanmax := by bridge_tac
theorem min : Generated.ScalarFuncs.min = Scalar.min := by bridge_tac
theorem nanmin : Generated.ScalarFuncs.nanmin = Scalar.nanmin := by bridge_tac
theorem nancount : Generated.ScalarFuncs.nancount = Scalar.nancount := by bridge_tac
theorem count : Generated.ScalarFuncs.count = Scalar.count := by bridge_tac
theorem first : Generated.ScalarFuncs.first = Scalar.first := by bridge_tac
theorem last : Generated.ScalarFuncs.last = Scalar.last := by bridge_tac

/-- the same for the two-argument reducers of `util.NumbaReductionOps` -/
macro "bridge_tac2" : tactic =>
  `(tactic| (first
    | rfl
    | (funext k a b
       cases a <;> cases b <;>
       simp only [Generated.ReductionOps.count, Generated.ReductionOps.min, Generated.ReductionOps.max,
         Generated.ReductionOps.sum, Generated.ReductionOps.first, Generated.ReductionOps.first_skipna,
         Generated.ReductionOps.last, Generated.ReductionOps.last_skipna, Generated.ReductionOps.sum_square,
         ROps.count, ROps.min, ROps.max, ROps.sum, ROps.first, ROps.first_skipna, ROps.last, ROps.last_skipna,
         ROps.sum_square] <;>
       (repeat' split) <;> simp_all)))

/- `C20.generated_rops_eq_model` collects the five reducers `reduce_1d` uses; `first` / `last` and their `skipna`
variants stand alone as build obligations. -/
theorem rop_count : Generated.ReductionOps.count = ROps.count := by bridge_tac2
theorem rop_min : Generated.ReductionOps.min = ROps.min := by bridge_tac2
theorem rop_max : Generated.ReductionOps.max = ROps.max := by bridge_tac2
theorem rop_sum : Generated.ReductionOps.sum = ROps.sum := by bridge_tac2
theorem rop_first : Generated.ReductionOps.first = ROps.first := by bridge_tac2
theorem rop_first_skipna : Generated.ReductionOps.first_skipna = ROps.first_skipna := by bridge_tac2
theorem rop_last : Generated.ReductionOps.last = ROps.last := by bridge_tac2
theorem rop_last_skipna : Generated.ReductionOps.last_skipna = ROps.last_skipna := by bridge_tac2
theorem rop_sum_square : Generated.ReductionOps.sum_square = ROps.sum_square := by bridge_tac2

end GV.Bridge
