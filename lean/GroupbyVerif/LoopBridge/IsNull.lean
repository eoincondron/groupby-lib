import GroupbyVerif.Generated.Loops

/-!
# The null test the translated loops use is the source's `is_null` overload

The generated loops call the hand-written `isNull` (`Model/Val.lean`).  `Generated.Loops.is_null_src` is the
`@overload(is_null)` dispatch of `util.py` as the translator reads it on every run; on every well-formed cell the two
agree, so a change of the overload (another sentinel, a null for narrow or unsigned integers, ...) breaks this theorem.
-/

namespace GV.LoopBridge
open GV GV.Generated.Loops

theorem is_null_src_eq (k : Kind) (v : Val) (h : WF k v) : is_null_src k v = isNull k v := by
  cases k with
  | f => cases v <;> rfl
  | b => cases v <;> rfl
  | i w =>
    cases v with
    | nan => exact absurd h (by simp [WF])
    | num n =>
      -- the dispatch has an arm of its own for `int64` (datetime / timedelta views go through `isnat` there)
      by_cases hw : w = 64
      · subst hw
        show (decide (n = minInt64) && decide (n = minInt64)) = (n == minInt64)
        exact (Bool.and_self _).trans (Bool.beq_eq_decide_eq n minInt64).symm
      · have : is_null_src (.i w) (.num n) = Val.eqF (.num n) (.num (-9223372036854775808)) := by
          unfold is_null_src
          split
          · rename_i heq; cases heq
          · rename_i heq; cases heq
          · rename_i heq; cases heq; exact absurd rfl hw
          · rfl
        rw [this]
        show decide (n = minInt64) = (n == minInt64)
        exact (Bool.beq_eq_decide_eq n minInt64).symm
  | u w =>
    cases v with
    | nan => exact absurd h (by simp [WF])
    | num n =>
      simp only [WF] at h
      have : is_null_src (.u w) (.num n) = Val.eqF (.num n) (.num (-9223372036854775808)) := by
        unfold is_null_src; rfl
      rw [this]
      show decide (n = -9223372036854775808) = false
      -- `WF` gives `0 ≤ n`, the sentinel is negative
      exact decide_eq_false fun e => absurd h.1 (by rw [e]; decide)

end GV.LoopBridge
