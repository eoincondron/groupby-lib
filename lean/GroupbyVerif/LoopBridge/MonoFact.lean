import GroupbyVerif.Generated.Loops
import GroupbyVerif.Model.Factorize
import GroupbyVerif.LoopBridge.Fold

/-!
# Bridge: the translated `_monotonic_factorization` is `monotonicFactorization` on the concatenated chunks

The source walks a list of chunks with a cursor `(arr_num, arr, cur_arr_pos)` and two `while` loops that skip empty
chunks (translated with the declared bound `len(arr_list)`; the bound is proved sufficient; the initial loop is the
advancing loop at position 0).  A cursor `(a, p)` stands at cell `preLen chunks a + p` of the concatenation.  The run
detection itself (`x < prev or x != x` ends the prefix, `x > prev` opens a new label) is the model's `go`.
-/

namespace GV.LoopBridge
open GV GV.Generated.Loops

/-- number of cells in the first `a` chunks -/
def preLen : List (List Val) → Nat → Nat
  | [], _ => 0
  | _ :: _, 0 => 0
  | c :: cs, a + 1 => c.length + preLen cs a

/-- the closed form, through which all facts about `preLen` but `preLen_zero` go -/
theorem preLen_eq (chunks : List (List Val)) (a : Nat) : preLen chunks a = ((chunks.take a).flatten).length := by
  induction chunks generalizing a with
  | nil => simp [preLen]
  | cons c cs ih => cases a <;> simp [preLen, ih]

theorem preLen_succ (chunks : List (List Val)) (a : Nat) (ha : a < chunks.length) :
    preLen chunks (a + 1) = preLen chunks a + (chunks.getD a []).length := by
  rw [preLen_eq, preLen_eq, List.take_succ_eq_append_getElem ha, List.flatten_append, List.length_append]
  simp [ha]

theorem preLen_le_total (chunks : List (List Val)) (a : Nat) : preLen chunks a ≤ chunks.flatten.length := by
  rw [preLen_eq]
  conv => rhs; rw [← List.take_append_drop a chunks, List.flatten_append, List.length_append]
  exact Nat.le_add_right _ _

theorem preLen_of_ge (chunks : List (List Val)) (a : Nat) (ha : chunks.length ≤ a) :
    preLen chunks a = chunks.flatten.length := by
  rw [preLen_eq, List.take_of_length_le ha]

theorem preLen_zero (chunks : List (List Val)) : preLen chunks 0 = 0 := by
  cases chunks <;> rfl

theorem cursor_val (chunks : List (List Val)) (a p : Nat) (ha : a < chunks.length) (hp : p < (chunks.getD a []).length) :
    (chunks.getD a []).getD p Val.nan = chunks.flatten.getD (preLen chunks a + p) Val.nan := by
  rw [getD_eq_getElem _ _ ha] at hp ⊢
  have hsplit : chunks.flatten = (chunks.take a).flatten ++ (chunks[a] ++ (chunks.drop (a + 1)).flatten) := by
    conv => lhs; rw [← List.take_append_drop a chunks, List.drop_eq_getElem_cons ha]
    rw [List.flatten_append, List.flatten_cons]
  rw [hsplit, preLen_eq, List.getD_eq_getElem?_getD, List.getD_eq_getElem?_getD,
    List.getElem?_append_right (Nat.le_add_right _ _), Nat.add_sub_cancel_left, List.getElem?_append_left hp]

/-- one turn of the advancing `while` loop -/
theorem mono_loop3_step_eq (k : Kind) (chunks : List (List Val)) (a : Int) (arr : List Val) (p : Int) (e : Bool) (x : Int) :
    monotonic_factorization_loop3_step k chunks ⟨a, arr, p, e⟩ x =
      if p = (arr.length : Int) then ⟨a + 1, chunks.getD (normI (chunks.length : Int) (a + 1)).toNat [], 0, e⟩
      else ⟨a, arr, p, e⟩ := by
  simp only [monotonic_factorization_loop3_step]
  by_cases h : p = (arr.length : Int)
  · simp only [h, decide_true, if_true]
  · simp only [h, decide_false, Bool.false_eq_true, if_false]

/-- the advancing `while` loop (bound `len(arr_list)`) reaches the chunk that holds cell `i` of the concatenation -/
theorem adv3 (k : Kind) (chunks : List (List Val)) (i : Nat) (hi : i < chunks.flatten.length) :
    ∀ (fl : List Int) (a p : Nat) (e : Bool), a < chunks.length → preLen chunks a + p = i →
      p ≤ (chunks.getD a []).length → chunks.length ≤ a + 1 + fl.length →
      ∃ a' p', a' < chunks.length ∧ preLen chunks a' + p' = i ∧ p' < (chunks.getD a' []).length ∧
        fl.foldl (monotonic_factorization_loop3_step k chunks) ⟨a, chunks.getD a [], p, e⟩
          = ⟨a', chunks.getD a' [], p', e⟩ := by
  -- a cursor at the end of its chunk is not in the last chunk: cell `i` lies further on
  have hnext : ∀ a p, a < chunks.length → preLen chunks a + p = i → (chunks.getD a []).length ≤ p →
      a + 1 < chunks.length := fun a p ha hpre hge => Nat.lt_of_not_le fun h => Nat.lt_irrefl _ <|
    calc chunks.flatten.length = preLen chunks (a + 1) := (preLen_of_ge chunks (a + 1) h).symm
      _ = preLen chunks a + (chunks.getD a []).length := preLen_succ chunks a ha
      _ ≤ preLen chunks a + p := Nat.add_le_add_left hge _
      _ = i := hpre
      _ < chunks.flatten.length := hi
  intro fl
  induction fl with
  | nil =>
    intro a p e ha hpre _ hfuel
    rw [List.length_nil, Nat.add_zero] at hfuel
    exact ⟨a, p, ha, hpre, Nat.lt_of_not_le fun hge => Nat.lt_irrefl _ (Nat.lt_of_lt_of_le (hnext a p ha hpre hge) hfuel),
      rfl⟩
  | cons x xs ih =>
    intro a p e ha hpre hple hfuel
    rw [List.length_cons] at hfuel
    rw [List.foldl_cons, mono_loop3_step_eq]
    rcases Nat.lt_or_ge p (chunks.getD a []).length with hlt | hge
    · have hne : (p : Int) ≠ ((chunks.getD a []).length : Int) := Int.ne_of_lt (Int.ofNat_lt.mpr hlt)
      rw [if_neg hne]
      refine ⟨a, p, ha, hpre, hlt, foldl_fixed _ _ (fun _ => ?_) xs⟩
      rw [mono_loop3_step_eq, if_neg hne]
    · have hpl : p = (chunks.getD a []).length := Nat.le_antisymm hple hge
      rw [if_pos (congrArg _ hpl), ← Int.natCast_succ, normI_natCast, Int.toNat_natCast]
      refine ih (a + 1) 0 e (hnext a p ha hpre hge) ?_ (Nat.zero_le _) (by rw [Nat.add_right_comm]; exact hfuel)
      rw [Nat.add_zero, preLen_succ chunks a ha, ← hpl]
      exact hpre

/-- the initial `while` loop is the advancing loop at position 0 -/
theorem mono_loop1_eq_loop3 (k : Kind) (chunks : List (List Val)) (fl : List Int) (a : Int) (arr : List Val) :
    fl.foldl (monotonic_factorization_loop1_step k chunks) ⟨a, arr⟩ =
      (let s := fl.foldl (monotonic_factorization_loop3_step k chunks) ⟨a, arr, 0, false⟩; ⟨s.arr_num, s.arr⟩) := by
  induction fl generalizing a arr with
  | nil => rfl
  | cons x xs ih =>
    rw [List.foldl_cons, List.foldl_cons, ih, mono_loop3_step_eq]
    simp only [monotonic_factorization_loop1_step, eq_comm (a := (0 : Int))]
    by_cases h : (arr.length : Int) = 0 <;> simp only [h, decide_true, decide_false, if_true, if_false, Bool.false_eq_true]

/-- the initial `while` loop skips the empty leading chunks -/
theorem adv1 (k : Kind) (chunks : List (List Val)) (hi : 0 < chunks.flatten.length) (hcl : 0 < chunks.length) :
    ∃ a', a' < chunks.length ∧ preLen chunks a' = 0 ∧ 0 < (chunks.getD a' []).length ∧
      (rangeI (chunks.length : Int)).foldl (monotonic_factorization_loop1_step k chunks) ⟨0, chunks.getD 0 []⟩
        = ⟨a', chunks.getD a' []⟩ := by
  obtain ⟨a', p', ha', hpre, hp, hadv⟩ := adv3 k chunks 0 hi (rangeI (chunks.length : Int)) 0 0 false hcl
    (by rw [preLen_zero]) (Nat.zero_le _) (by simp [rangeI])
  obtain ⟨h0, rfl⟩ := Nat.add_eq_zero_iff.mp hpre
  refine ⟨a', ha', h0, hp, ?_⟩
  rw [mono_loop1_eq_loop3]
  exact congrArg (fun s : Monotonic_factorization_loop3St => (⟨s.arr_num, s.arr⟩ : Monotonic_factorization_loop1St)) hadv

/-- the comparisons of the source on cells: `x < prev`, `x > prev`, and `x != x` as the null test -/
abbrev mgo := @monotonicFactorization.go Val Val.lt Val.gt (fun x => Val.neF x x)

theorem mgo_cons (p y : Val) (i : Nat) (c : List Nat) (l ys : List Val) :
    mgo p i c l (y :: ys) =
      if Val.lt y p || Val.neF y y then (i, c.reverse, l.reverse)
      else if Val.gt y p then mgo y (i + 1) (l.length :: c) (y :: l) ys
      else mgo y (i + 1) ((l.length - 1) :: c) l ys := rfl

theorem mgo_nil (p : Val) (i : Nat) (c : List Nat) (l : List Val) : mgo p i c l [] = (i, c.reverse, l.reverse) := rfl

/-- generated main-loop state vs the model's accumulators, before row `i` -/
structure MInvS (chunks : List (List Val)) (i : Nat) (st : Monotonic_factorization_loop2St) (prev : Val)
    (codesRev : List Nat) (labelsRev : List Val) : Prop where
  cursor : ∃ a p : Nat, a < chunks.length ∧ preLen chunks a + p + 1 = i ∧ p < (chunks.getD a []).length ∧
    st.arr_num = (a : Int) ∧ st.arr = chunks.getD a [] ∧ st.cur_arr_pos = (p : Int)
  nlab : st.n_labels = (labelsRev.length : Int)
  lpos : 0 < labelsRev.length ∧ labelsRev.length ≤ i
  labs : ∀ j, j < labelsRev.length → st.labels (j : Int) = labelsRev.reverse.getD j .nan
  clen : codesRev.length = i
  cods : ∀ j, j < i → st.codes (j : Int) = ((codesRev.reverse.getD j 0 : Nat) : Int)
  hprev : st.prev = prev
  herr : st.err = false
  hdone : st.done = false
  hret : st.ret = none

/-- the value of the function given the final state of the main loop -/
def mresult (total : Nat) (fin : Monotonic_factorization_loop2St) : Int × (Int → Int) × ((Int → Val) × Int) :=
  match fin.ret with
  | some r => r
  | none => ((total : Int), fin.codes, (fin.labels, fin.n_labels))

/-- agreement of a returned triple with the model's triple -/
def MAgree (r : Int × (Int → Int) × ((Int → Val) × Int)) (m : Nat × List Nat × List Val) : Prop :=
  r.1 = (m.1 : Int) ∧ (∀ j, j < m.2.1.length → r.2.1 (j : Int) = ((m.2.1.getD j 0 : Nat) : Int)) ∧
    r.2.2.2 = (m.2.2.length : Int) ∧ (∀ j, j < m.2.2.length → r.2.2.1 (j : Int) = m.2.2.getD j .nan)

theorem MInvS.agree {chunks : List (List Val)} {i : Nat} {st : Monotonic_factorization_loop2St} {prev : Val}
    {codesRev : List Nat} {labelsRev : List Val} (h : MInvS chunks i st prev codesRev labelsRev) :
    MAgree ((i : Int), st.codes, (st.labels, st.n_labels)) (i, codesRev.reverse, labelsRev.reverse) :=
  ⟨rfl, fun j hj => h.cods j (by simpa [h.clen] using hj), by simp [h.nlab], fun j hj => h.labs j (by simpa using hj)⟩

/-- from the invariant before row `i`, a cursor `(a', p')` on cell `i`, a code `c` for the row `y` and any label list that
meets `lpos` / `labs`: the invariant before row `i + 1` -/
theorem MInvS.push {chunks : List (List Val)} {i : Nat} {st : Monotonic_factorization_loop2St} {prev : Val}
    {codesRev : List Nat} {labelsRev : List Val} (h : MInvS chunks i st prev codesRev labelsRev)
    (a' p' : Nat) (ha' : a' < chunks.length) (hpre' : preLen chunks a' + p' = i) (hp' : p' < (chunks.getD a' []).length)
    (y : Val) (c : Nat) (labelsRev' : List Val) (lab' : Int → Val)
    (hlpos : 0 < labelsRev'.length ∧ labelsRev'.length ≤ i + 1)
    (hlabs : ∀ j, j < labelsRev'.length → lab' (j : Int) = labelsRev'.reverse.getD j .nan) :
    MInvS chunks (i + 1) ⟨p', a', chunks.getD a' [], lab', labelsRev'.length, aset st.codes i c, y, false, false, none⟩ y
      (c :: codesRev) labelsRev' := by
  refine ⟨⟨a', p', ha', congrArg (· + 1) hpre', hp', rfl, rfl, rfl⟩, rfl, hlpos, hlabs,
    congrArg (· + 1) h.clen, ?_, rfl, rfl, rfl, rfl⟩
  rw [List.reverse_cons]
  exact aset_snoc (fun c : Nat => (c : Int)) st.codes _ _ _ _ ((List.length_reverse ..).trans h.clen) h.cods

/-- one row of the main loop against one unfolding of `go` -/
theorem mono_step (k : Kind) (chunks : List (List Val)) (htot : (chunks.flatten.length : Int) < 2 ^ 32) (i : Nat)
    (hi : i < chunks.flatten.length) (st : Monotonic_factorization_loop2St) (prev : Val) (codesRev : List Nat)
    (labelsRev : List Val) (h : MInvS chunks i st prev codesRev labelsRev) :
    let y := chunks.flatten[i]
    let st' := monotonic_factorization_loop2_step k chunks chunks.flatten.length chunks.flatten.length st (i : Int)
    st'.err = false ∧
      if (Val.lt y prev || Val.neF y y) = true then
        st'.done = true ∧ st'.ret = some ((i : Int), st.codes, (st.labels, st.n_labels))
      else if Val.gt y prev = true then MInvS chunks (i + 1) st' y (labelsRev.length :: codesRev) (y :: labelsRev)
      else MInvS chunks (i + 1) st' y ((labelsRev.length - 1) :: codesRev) labelsRev := by
  intro y st'
  -- label numbers fit the `uint32` codes
  have hL32 : (labelsRev.length : Int) < 2 ^ 32 :=
    Int.lt_trans (Int.ofNat_lt.mpr (Nat.lt_of_le_of_lt h.lpos.2 hi)) htot
  have hw1 : wrapU 32 ((labelsRev.length : Int) + 1 - 1) = (labelsRev.length : Int) := by
    rw [Int.add_sub_cancel, wrapU_id _ _ (Int.natCast_nonneg _) hL32]
  have hw2 : wrapU 32 ((labelsRev.length : Int) - 1) = ((labelsRev.length - 1 : Nat) : Int) := by
    rw [← Int.natCast_one, ← Int.natCast_sub h.lpos.1,
      wrapU_id _ _ (Int.natCast_nonneg _) (Int.lt_of_le_of_lt (Int.ofNat_le.mpr (Nat.sub_le _ _)) hL32)]
  obtain ⟨a, p, ha, hpre, hp, hsa, hsarr, hsp⟩ := h.cursor
  -- the cursor moves to cell i
  obtain ⟨a', p', ha', hpre', hp', hadv⟩ := adv3 k chunks i hi ((rangeI (chunks.length : Int))) a (p + 1) false ha
    ((Nat.add_assoc ..).symm.trans hpre) (Nat.succ_le_of_lt hp) (by simp [rangeI])
  have hx : (chunks.getD a' []).getD p' Val.nan = y := by
    rw [cursor_val chunks a' p' ha' hp', hpre', getD_eq_getElem _ _ hi]
  have e1 : ((p : Int) + 1) = ((p + 1 : Nat) : Int) := (Int.natCast_succ p).symm
  have hd : decide ((p' : Int) = ((chunks.getD a' []).length : Int)) = false :=
    decide_eq_false (Int.ne_of_lt (Int.ofNat_lt.mpr hp'))
  simp only [st', monotonic_factorization_loop2_step, h.hdone, h.herr, hsa, hsarr, hsp, h.hprev, h.nlab, h.hret,
    Bool.false_eq_true, if_false, e1, hadv, hd, Bool.not_false, Bool.not_true, Bool.or_false, normI_natCast,
    Int.toNat_natCast, hx]
  by_cases h1 : (Val.lt y prev || Val.neF y y) = true
  · simp only [h1, if_true, and_self]
  · simp only [h1, Bool.false_eq_true, if_false, true_and]
    by_cases h2 : Val.gt y prev = true
    · simp only [h2, if_true, hw1]
      rw [← Int.natCast_succ]
      refine h.push a' p' ha' hpre' hp' y _ (y :: labelsRev) _ ⟨Nat.succ_pos _, Nat.succ_le_succ h.lpos.2⟩ ?_
      rw [List.reverse_cons]
      exact aset_snoc id st.labels _ _ y _ (List.length_reverse ..) h.labs
    · simp only [h2, Bool.false_eq_true, if_false, hw2]
      exact h.push a' p' ha' hpre' hp' y _ labelsRev _ ⟨h.lpos.1, Nat.le_succ_of_le h.lpos.2⟩ h.labs

/-- by induction on the rows left, not by `foldl_inv`: after the early return the state is frozen (`foldl_fixed`) and
`MInvS` no longer holds of it -/
theorem main_loop (k : Kind) (chunks : List (List Val)) (htot : (chunks.flatten.length : Int) < 2 ^ 32) (d : Nat) :
    ∀ (i : Nat) (st : Monotonic_factorization_loop2St) (prev : Val) (codesRev : List Nat) (labelsRev : List Val),
      i + d = chunks.flatten.length → MInvS chunks i st prev codesRev labelsRev →
      let fin := ((List.range' i d).map (fun q : Nat => (q : Int))).foldl
        (monotonic_factorization_loop2_step k chunks chunks.flatten.length chunks.flatten.length) st
      fin.err = false ∧
        MAgree (mresult chunks.flatten.length fin) (mgo prev i codesRev labelsRev (chunks.flatten.drop i)) := by
  induction d with
  | zero =>
    intro i st prev codesRev labelsRev hlen h
    rw [Nat.add_zero] at hlen
    simp only [List.range'_zero, List.map_nil, List.foldl_nil, List.drop_of_length_le (Nat.le_of_eq hlen.symm), mgo_nil,
      mresult, h.hret]
    exact ⟨h.herr, hlen ▸ h.agree⟩
  | succ d ih =>
    intro i st prev codesRev labelsRev hlen h
    have hi : i < chunks.flatten.length := hlen ▸ Nat.lt_add_of_pos_right (Nat.succ_pos d)
    have hlen' : i + 1 + d = chunks.flatten.length := (Nat.add_right_comm i 1 d).trans hlen
    obtain ⟨he, hs⟩ := mono_step k chunks htot i hi st prev codesRev labelsRev h
    simp only [List.range'_succ, List.map_cons, List.foldl_cons, List.drop_eq_getElem_cons hi, mgo_cons]
    split at hs
    · next h1 =>
      rw [if_pos h1, foldl_fixed _ _ (fun _ => by rw [monotonic_factorization_loop2_step, if_pos hs.1])]
      exact ⟨he, by rw [mresult, hs.2]; exact h.agree⟩
    · next h1 =>
      rw [if_neg h1]
      split at hs
      · next h2 => rw [if_pos h2]; exact ih _ _ _ _ _ hlen' hs
      · next h2 => rw [if_neg h2]; exact ih _ _ _ _ _ hlen' hs

theorem getLastD_range' (n : Nat) (hn : 2 ≤ n) :
    ((List.range' 1 (n - 1)).map (fun q : Nat => (q : Int))).getLastD 0 = ((n - 1 : Nat) : Int) := by
  obtain ⟨m, rfl⟩ := Nat.exists_eq_add_of_le' hn
  -- `m + 2 - 1` is `m + 1`
  show ((List.range' 1 (m + 1)).map (fun q : Nat => (q : Int))).getLastD 0 = ((m + 1 : Nat) : Int)
  rw [List.range'_concat, List.map_append, List.map_singleton, List.getLastD_concat, Nat.one_mul, Nat.add_comm]

/-- falling out of `for i in range(1, n)` with `i` preset to 0, `i + 1 = n` -/
theorem getLastD_range'_succ (n : Nat) (hn : 0 < n) :
    ((List.range' 1 (n - 1)).map (fun q : Nat => (q : Int))).getLastD 0 + 1 = (n : Int) := by
  by_cases h2 : 2 ≤ n
  · rw [getLastD_range' _ h2]; omega
  · obtain rfl : n = 1 := by omega
    rfl

/-- **`_monotonic_factorization` is `monotonicFactorization` on the concatenation of the chunks**: cut-off, codes of the
prefix and labels agree, for any chunking (empty chunks anywhere), below `2^32` rows; the two `while` loops stay within
their bound.  The error flag is raised only for a one-row input: there the source reads the loop variable of a loop
that did not run (`return i + 1`) - numba returns the right cut-off 1 all the same (exercised by the correspondence) -/
theorem monotonic_factorization_eq (k : Kind) (chunks : List (List Val)) (htot : (chunks.flatten.length : Int) < 2 ^ 32) :
    let r := monotonic_factorization k chunks chunks.flatten.length
    MAgree r.1 (monotonicFactorization Val.lt Val.gt (fun x => Val.neF x x) chunks.flatten) ∧
      (chunks.flatten.length ≠ 1 → r.2 = false) := by
  intro r
  by_cases hn0 : chunks.flatten.length = 0
  · simp [r, monotonic_factorization, List.length_eq_zero_iff.mp hn0, monotonicFactorization, MAgree]
  · have hpos : 0 < chunks.flatten.length := Nat.pos_of_ne_zero hn0
    have hc : decide (((chunks.flatten.length : Nat) : Int) = 0) = false :=
      decide_eq_false fun h => hn0 (Int.natCast_eq_zero.mp h)
    have hcl : 0 < chunks.length := List.length_pos_iff.mpr fun h => by simp [h] at hpos
    obtain ⟨a0, ha0, hpre0, hlen0, hadv1⟩ := adv1 k chunks hpos hcl
    obtain ⟨x, xs, hxs⟩ := List.exists_cons_of_length_pos hpos
    have hx0 : (chunks.getD a0 []).getD 0 Val.nan = x := by
      rw [cursor_val chunks a0 0 ha0 hlen0, hpre0, hxs]; rfl
    have hd0 : decide ((((chunks.getD a0 []).length : Nat) : Int) = 0) = false :=
      decide_eq_false fun h => Nat.ne_of_gt hlen0 (Int.natCast_eq_zero.mp h)
    have hw0 : wrapU 32 (0 : Int) = 0 := rfl
    simp only [r, monotonic_factorization, hc, Bool.false_eq_true, if_false, normI_zero, Int.toNat_zero, hadv1, hx0, hd0, hw0,
      Bool.not_false, Bool.not_true, Bool.or_false]
    have hmodel : monotonicFactorization Val.lt Val.gt (fun x => Val.neF x x) chunks.flatten =
        (if Val.neF x x then (0, [], []) else mgo x 1 [0] [x] xs) := by
      rw [hxs]; rfl
    rw [hmodel]
    by_cases hnx : Val.neF x x = true
    · simp [hnx, MAgree]
    · simp only [hnx, Bool.false_eq_true, if_false]
      have hinv : MInvS chunks 1
          ⟨0, (a0 : Int), chunks.getD a0 [], aset (fun _ => Val.num 0) 0 x, 1, aset (fun _ => (0 : Int)) 0 0, x, false, false,
            none⟩ x [0] [x] := by
        refine ⟨⟨a0, 0, ha0, congrArg (· + 1) hpre0, hlen0, rfl, rfl, rfl⟩, rfl, ⟨Nat.one_pos, Nat.le_refl 1⟩,
          fun j hj => ?_, rfl, fun j hj => ?_, rfl, rfl, rfl, rfl⟩
        · obtain rfl := Nat.lt_one_iff.mp hj
          rfl
        · obtain rfl := Nat.lt_one_iff.mp hj
          rfl
      obtain ⟨herr, hagree⟩ := main_loop k chunks htot (chunks.flatten.length - 1) 1 _ x [0] [x]
        (Nat.add_sub_cancel' hpos) hinv
      rw [show chunks.flatten.drop 1 = xs by rw [hxs]; rfl] at hagree
      rw [rangeI2_one]
      generalize ((List.range' 1 (chunks.flatten.length - 1)).map (fun q : Nat => (q : Int))).foldl _ _ = fin at herr hagree ⊢
      cases hr : fin.ret with
      | some rr =>
        rw [mresult, hr] at hagree
        exact ⟨hagree, fun _ => herr⟩
      | none =>
        rw [mresult, hr] at hagree
        refine ⟨?_, fun hne1 => ?_⟩
        · show MAgree (_ + 1, _) _
          rw [getLastD_range'_succ _ hpos]
          exact hagree
        · obtain ⟨m, hm⟩ := Nat.exists_eq_succ_of_ne_zero
            (Nat.sub_ne_zero_of_lt (Nat.lt_of_le_of_ne hpos (Ne.symm hne1)))
          show (fin.err || !!(List.map _ (List.range' 1 (chunks.flatten.length - 1))).isEmpty) = false
          rw [herr, hm, List.range'_succ, List.map_cons]
          rfl

end GV.LoopBridge
