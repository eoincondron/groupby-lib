import GroupbyVerif.LoopBridge.Basic
import GroupbyVerif.Lemmas.Scan

/-!
# Kernel loops as folds: the inductions the bridges share

A loop `for i in range(n)` of a translated kernel is a fold over the image of `List.range n`; a bridge is one step lemma
and one of the loop lemmas below (`fold_rel_map` in `Basic.lean`, with or without a step counter, is the other route, for
kernels without a row-aligned output).  The second half of the file is what the step lemmas share.
-/

namespace GV

theorem foldl_range_inv {σ β : Type} (I : Nat → σ → Prop) (f : σ → β → σ) (x : Nat → β) (n : Nat) (s0 : σ)
    (h0 : I 0 s0) (hstep : ∀ t s, t < n → I t s → I (t + 1) (f s (x t))) :
    I n (((List.range n).map x).foldl f s0) := by
  have h := foldl_inv I f ((List.range n).map x) s0 h0 fun t s ht hs => by
    rw [List.getElem_map, List.getElem_range]
    exact hstep t s (by simpa using ht) hs
  rwa [List.length_map, List.length_range] at h

theorem foldl_rangeI_inv {σ : Type} (I : Nat → σ → Prop) (f : σ → Int → σ) (n : Nat) (s0 : σ) (h0 : I 0 s0)
    (hstep : ∀ t s, t < n → I t s → I (t + 1) (f s (t : Int))) : I n ((rangeI (n : Int)).foldl f s0) := by
  rw [rangeI_natCast]
  exact foldl_range_inv I f _ n s0 h0 hstep

theorem LoopBridge.loopGo_length {σ β ρ : Type} (step : σ → β → σ) (out : σ → β → ρ) (m : Int → σ) (rows : List (Int × β)) :
    (loopGo step out m rows).length = rows.length :=
  _root_.GV.loopGo_length step out m rows

/-- a loop over the rows `a, .., b - 1` that writes cell `t` at row `t`; the step may use that the earlier cells are
already right (the ungrouped EMA kernels copy `out[t-1]`) -/
theorem foldl_rows {σ β γ : Type} (f : σ → β → σ) (x : Nat → β) (out : σ → Int → γ) (Inv : Nat → σ → Prop)
    (cell : Nat → γ) (a b : Nat) (hab : a ≤ b)
    (hstep : ∀ t s, a ≤ t → t < b → Inv t s → (∀ j : Nat, j < t → out s j = cell j) →
      Inv (t + 1) (f s (x t)) ∧ (∀ j : Nat, j < t → out (f s (x t)) j = out s j) ∧ out (f s (x t)) t = cell t)
    (s : σ) (hinv : Inv a s) (hc : ∀ j : Nat, j < a → out s j = cell j) :
    Inv b (((List.range' a (b - a)).map x).foldl f s) ∧
      ∀ j : Nat, j < b → out (((List.range' a (b - a)).map x).foldl f s) j = cell j := by
  have h := foldl_inv (fun t s => Inv (a + t) s ∧ ∀ j : Nat, j < a + t → out s j = cell j) f
    ((List.range' a (b - a)).map x) s ⟨hinv, hc⟩ fun t s ht ⟨hi, hcs⟩ => by
      rw [List.getElem_map, List.getElem_range', Nat.one_mul]
      rw [List.length_map, List.length_range'] at ht
      have htb : a + t < b := Nat.add_lt_of_lt_sub' ht
      obtain ⟨h1, h2, h3⟩ := hstep (a + t) s (Nat.le_add_right a t) htb hi hcs
      refine ⟨h1, fun j hj => ?_⟩
      rcases Nat.lt_succ_iff_lt_or_eq.mp hj with hlt | rfl
      · rw [h2 j hlt]; exact hcs j hlt
      · exact h3
  rwa [List.length_map, List.length_range', Nat.add_sub_cancel' hab] at h

/-- the kernel's output cell for a model output: `d` where the model writes nothing (null key) or has no row -/
def cellOr {ρ γ : Type} (render : ρ → γ) (d : γ) : Option (Option ρ) → γ
  | some (some c) => render c
  | _ => d

/-- the kernel's row loop against the model's scan `loopGo`.  The step is handed that the cells from `t` on are still the
initial ones: a null-key row leaves its cell as allocated (so the array must have been allocated as `d`), and
`_cumulative_reduce` reads `target[-1]`. -/
theorem foldl_range_sim {σ μ β α ρ γ : Type} (f : σ → β → σ) (x : Nat → β) (out : σ → Int → γ)
    (step : μ → α → μ) (o : μ → α → ρ) (r : Nat → Int × α) (render : ρ → γ) (d : γ)
    (Inv : Nat → σ → (Int → μ) → Prop) (n : Nat) (s0 : σ) (m0 : Int → μ) (h0 : Inv 0 s0 m0)
    (hstep : ∀ t s m, t < n → Inv t s m → (∀ j : Int, (t : Int) ≤ j → out s j = out s0 j) →
      Inv (t + 1) (f s (x t)) (gstep step m (r t)) ∧ (∀ j : Int, j ≠ (t : Int) → out (f s (x t)) j = out s j) ∧
        out (f s (x t)) (t : Int) = if (r t).1 < 0 then d else render (o (m (r t).1) (r t).2)) :
    let fin := ((List.range n).map x).foldl f s0
    Inv n fin (groupFold step m0 ((List.range n).map r)) ∧
      (∀ j : Int, (n : Int) ≤ j ∨ j < 0 → out fin j = out s0 j) ∧
      ∀ j : Nat, j < n → out fin (j : Int) = cellOr render d (loopGo step o m0 ((List.range n).map r))[j]? := by
  intro fin
  let M : Nat → Int → μ := fun t => groupFold step m0 ((List.range t).map r)
  have hM : ∀ t, M (t + 1) = gstep step (M t) (r t) := fun t => by
    simp only [M, groupFold, List.range_succ, List.map_append, List.foldl_append, List.map_cons, List.map_nil,
      List.foldl_cons, List.foldl_nil]
  have hrow : ∀ j, j < n → cellOr render d (loopGo step o m0 ((List.range n).map r))[j]? =
      if (r j).1 < 0 then d else render (o (M j (r j).1) (r j).2) := fun j hj => by
    rw [loopGo_getElem?, List.getElem?_map, List.getElem?_range hj, ← List.map_take, List.take_range,
      Nat.min_eq_left (Nat.le_of_lt hj), Option.map_some, Option.map_some]
    exact apply_ite (fun o => cellOr render d (some o)) _ _ _
  have key := foldl_range_inv
    (fun t s => Inv t s (M t) ∧ (∀ j : Int, (t : Int) ≤ j ∨ j < 0 → out s j = out s0 j) ∧
      ∀ j : Nat, j < t → out s (j : Int) = if (r j).1 < 0 then d else render (o (M j (r j).1) (r j).2))
    f x n s0 ⟨h0, fun _ _ => rfl, fun j hj => absurd hj (Nat.not_lt_zero j)⟩
    (fun t s ht ⟨hinv, hun, hdone⟩ => by
      obtain ⟨h1, h2, h3⟩ := hstep t s (M t) ht hinv (fun j hj => hun j (Or.inl hj))
      refine ⟨hM t ▸ h1, fun j hj => ?_, fun j hj => ?_⟩
      · -- a cell outside `[0, t + 1)` is not cell `t`, and lies outside `[0, t)`
        have hne : j ≠ (t : Int) := by omega
        have hout : (t : Int) ≤ j ∨ j < 0 := by omega
        rw [h2 j hne]; exact hun j hout
      · rcases Nat.lt_succ_iff_lt_or_eq.mp hj with hlt | rfl
        · have hne : (j : Int) ≠ t := Int.ne_of_lt (Int.ofNat_lt.mpr hlt)
          rw [h2 j hne]; exact hdone j hlt
        · exact h3)
  exact ⟨key.1, key.2.1, fun j hj => by rw [hrow j hj]; exact key.2.2 j hj⟩

/-- `for arr in values: for val in arr:` is one loop over the concatenation; `φ` repacks the outer loop's state record as
the inner loop's -/
theorem foldl_flatten_of_chunk {σ τ β : Type} (f : σ → List β → σ) (g : τ → β → τ) (φ : σ → τ)
    (h : ∀ s c, φ (f s c) = c.foldl g (φ s)) (chunks : List (List β)) (s : σ) :
    φ (chunks.foldl f s) = chunks.flatten.foldl g (φ s) := by
  induction chunks generalizing s with
  | nil => rfl
  | cons c cs ih => rw [List.foldl_cons, List.flatten_cons, List.foldl_append, ih, h]

/-- `foldl_range_sim` for a kernel that walks the values chunk by chunk (`foldl_flatten_of_chunk`).  Row `t` reads
`chunks.flatten.getD t d0` (`d0` is never read: `t` is below the length); the step is handed that this value is one of the
values, which is where the bridges' well-formedness hypotheses `∀ v ∈ chunks.flatten, ..` enter. -/
theorem foldl_chunks_sim {σ₁ σ μ β α ρ γ : Type} (f₁ : σ₁ → List β → σ₁) (f : σ → β → σ) (φ : σ₁ → σ)
    (hφ : ∀ s c, φ (f₁ s c) = c.foldl f (φ s)) (chunks : List (List β)) (d0 : β) (out : σ → Int → γ)
    (step : μ → α → μ) (o : μ → α → ρ) (r : Nat → Int × α) (render : ρ → γ) (d : γ)
    (Inv : Nat → σ → (Int → μ) → Prop) (n : Nat) (hn : n = chunks.flatten.length)
    (s1 : σ₁) (m0 : Int → μ) (h0 : Inv 0 (φ s1) m0)
    (hstep : ∀ t s m, t < n → chunks.flatten.getD t d0 ∈ chunks.flatten → Inv t s m →
      (∀ j : Int, (t : Int) ≤ j → out s j = out (φ s1) j) →
      Inv (t + 1) (f s (chunks.flatten.getD t d0)) (gstep step m (r t)) ∧
        (∀ j : Int, j ≠ (t : Int) → out (f s (chunks.flatten.getD t d0)) j = out s j) ∧
        out (f s (chunks.flatten.getD t d0)) (t : Int) = if (r t).1 < 0 then d else render (o (m (r t).1) (r t).2)) :
    let fin := φ (chunks.foldl f₁ s1)
    Inv n fin (groupFold step m0 ((List.range n).map r)) ∧
      (∀ j : Int, (n : Int) ≤ j ∨ j < 0 → out fin j = out (φ s1) j) ∧
      ∀ j : Nat, j < n → out fin (j : Int) = cellOr render d (loopGo step o m0 ((List.range n).map r))[j]? := by
  intro fin
  have hfin : fin = ((List.range n).map fun t => chunks.flatten.getD t d0).foldl f (φ s1) := by
    rw [hn, ← list_eq_map_range]; exact foldl_flatten_of_chunk f₁ f φ hφ chunks s1
  rw [hfin]
  exact foldl_range_sim f _ out step o r render d Inv n (φ s1) m0 h0 fun t s m ht =>
    hstep t s m ht (by
      have ht' : t < chunks.flatten.length := hn ▸ ht
      rw [List.getD_eq_getElem?_getD, List.getElem?_eq_getElem ht']; exact List.getElem_mem ht')

theorem getD_snoc {α : Type} (l : List α) (x d : α) (j : Nat) :
    (l ++ [x]).getD j d = if j = l.length then x else l.getD j d := by
  rw [List.getD_eq_getElem?_getD, List.getD_eq_getElem?_getD]
  rcases Nat.lt_trichotomy j l.length with h | rfl | h
  · rw [List.getElem?_append_left h, if_neg (Nat.ne_of_lt h)]
  · rw [List.getElem?_concat_length, if_pos rfl]; rfl
  · have hlen : (l ++ [x]).length ≤ j := by rw [List.length_append, List.length_singleton]; exact h
    rw [List.getElem?_eq_none hlen, List.getElem?_eq_none (Nat.le_of_lt h), if_neg (Nat.ne_of_gt h)]

/-- writing cell `n` of an array that shows a list on `[0, n)` (through `g`) extends the list -/
theorem aset_snoc {α β : Type} (g : α → β) (f : Int → β) (l : List α) (d x : α) (n : Nat) (hn : l.length = n)
    (h : ∀ j, j < n → f (j : Int) = g (l.getD j d)) :
    ∀ j, j < n + 1 → aset f (n : Int) (g x) (j : Int) = g ((l ++ [x]).getD j d) := by
  intro j hj
  subst hn
  rw [aset_apply, getD_snoc]
  by_cases e : j = l.length
  · rw [if_pos (by rw [e]), if_pos e]
  · have hjl : j < l.length := Nat.lt_of_le_of_ne (Nat.le_of_lt_succ hj) e
    rw [if_neg (Int.ne_of_lt (Int.ofNat_lt.mpr hjl)), if_neg e]
    exact h j hjl

/-- the same for a segment that starts at cell `s` -/
theorem seg_snoc (idx : Int → Int) (s : Int) (l : List Nat) (x : Nat)
    (h : ∀ j, j < l.length → idx (s + (j : Int)) = ((l.getD j 0 : Nat) : Int)) :
    ∀ j, j < (l ++ [x]).length →
      aset idx (s + (l.length : Int)) (x : Int) (s + (j : Int)) = (((l ++ [x]).getD j 0 : Nat) : Int) := by
  intro j hj
  rw [List.length_append, List.length_singleton] at hj
  rw [aset_apply, getD_snoc]
  by_cases e : j = l.length
  · rw [if_pos (by rw [e]), if_pos e]
  · have hjl : j < l.length := Nat.lt_of_le_of_ne (Nat.le_of_lt_succ hj) e
    rw [if_neg fun h' => e (Int.ofNat_inj.mp (Int.add_left_cancel h')), if_neg e]
    exact h j hjl

theorem foldl_take_succ {σ α : Type} (f : σ → α → σ) (a : σ) (xs : List α) (t : Nat) (ht : t < xs.length) :
    (xs.take (t + 1)).foldl f a = f ((xs.take t).foldl f a) xs[t] := by
  rw [List.take_succ_eq_append_getElem ht, List.foldl_append]; rfl

theorem ite_cases {α : Type} (P : α → Prop) (c : Prop) [Decidable c] {a b : α} (ha : P a) (hb : P b) :
    P (if c then a else b) := by
  split <;> assumption

theorem ite_bnot {α : Type} (c : Bool) (x y : α) : (if (!c) = true then x else y) = if c = true then y else x := by
  cases c <;> rfl

theorem ite_band {α : Type} (a b : Bool) (x y : α) :
    (if (a && b) = true then x else y) = if a = true then (if b = true then x else y) else y := by
  cases a <;> rfl

/-- the shape of the two `continue`s at the head of a scan kernel's loop body -/
theorem ite_skip {α : Type} (a b : Bool) (s t : α) :
    (if a = true then s else if b = true then s else t) = if (a || b) = true then s else t := by
  cases a <;> cases b <;> rfl

/-- the two kinds of row of a scan kernel: skipped (null key, or dropped by the mask: effective code `-1`), or live
(the effective code is the key, and it is not negative) -/
theorem eff_cases (masked mb : Bool) (key : Int) :
    ((if masked && !mb then -1 else key) < 0 ∧ (decide (key < 0) || (masked && !mb)) = true) ∨
      ((if masked && !mb then -1 else key) = key ∧ 0 ≤ key ∧ decide (key < 0) = false ∧ (masked && !mb) = false) := by
  cases h : (masked && !mb) <;> simp <;> omega

theorem forall_aset_upd {α σ : Type} (R : α → σ → Prop) {P : Int → Prop} {a : Int → α} {m : Int → σ}
    (h : ∀ j, P j → R (a j) (m j)) (i : Int) {x : α} {y : σ} (hx : R x y) :
    ∀ j, P j → R (aset a i x j) (upd m i y j) := by
  intro j hj
  unfold aset upd
  split
  · exact hx
  · exact h j hj

theorem forall_aset2 {α : Type} (P : α → Prop) {a : Int → Int → α} (h : ∀ i j, P (a i j)) (p q : Int) {x : α} (hx : P x) :
    ∀ i j, P (aset2 a p q x i j) := by
  intro i j
  unfold aset2
  split
  · exact hx
  · exact h i j

def rowA {α : Type} (a : Int → Int → α) (g : Int) (n : Nat) : List α := (List.range n).map fun (j : Nat) => a g (j : Int)

theorem rowA_aset2_same {α : Type} (a : Int → Int → α) (g : Int) (n j : Nat) (x : α) :
    rowA (aset2 a g (j : Int) x) g n = (rowA a g n).set j x := by
  apply List.ext_getElem
  · simp [rowA]
  · intro p h1 h2
    simp only [rowA, List.getElem_map, List.getElem_range, aset2, true_and, List.getElem_set, Int.natCast_inj]
    by_cases e : p = j
    · rw [if_pos e, if_pos e.symm]
    · rw [if_neg e, if_neg (Ne.symm e)]

theorem rowA_aset2_other {α : Type} (a : Int → Int → α) (g g' : Int) (n : Nat) (j : Int) (x : α) (h : g' ≠ g) :
    rowA (aset2 a g j x) g' n = rowA a g' n := by
  simp [rowA, aset2, h]

/-! ### what `min_or_max_and_position` and `_get_first_non_null` share: leading nulls, then a loop over `[a, n)` -/

namespace LoopBridge

def leadNulls (k : Kind) : List Val → Nat
  | [] => 0
  | v :: vs => if isNull k v then leadNulls k vs + 1 else 0

theorem leadNulls_eq_findIdx (k : Kind) (l : List Val) : leadNulls k l = l.findIdx (fun v => !isNull k v) := by
  induction l with
  | nil => rfl
  | cons v vs ih => rw [leadNulls, List.findIdx_cons, ih]; cases isNull k v <;> rfl

theorem leadNulls_le (k : Kind) (l : List Val) : leadNulls k l ≤ l.length := by
  rw [leadNulls_eq_findIdx]; exact List.findIdx_le_length

theorem leadNulls_null (k : Kind) (l : List Val) (j : Nat) (hj : j < leadNulls k l) (d : Val) :
    isNull k (l.getD j d) = true := by
  rw [leadNulls_eq_findIdx] at hj
  rw [getD_eq_getElem l d (Nat.lt_of_lt_of_le hj List.findIdx_le_length)]
  simpa using List.not_of_lt_findIdx hj

theorem leadNulls_stop (k : Kind) (l : List Val) (h : leadNulls k l < l.length) (d : Val) :
    isNull k (l.getD (leadNulls k l) d) = false := by
  rw [getD_eq_getElem l d h]
  simp only [leadNulls_eq_findIdx] at h ⊢
  simpa using List.findIdx_getElem (w := h)

theorem dropWhile_eq_drop (k : Kind) (l : List Val) :
    l.dropWhile (fun v => isNull k v) = l.drop (leadNulls k l) := by
  rw [leadNulls_eq_findIdx]; exact List.dropWhile_eq_drop_findIdx_not

/-- a fold over the index range `[a, n)` that reads `arr[q]` simulates the fold over `l.drop a` -/
theorem fold_rangeI2_drop_rel {σ τ : Type} (R : σ → τ → Prop) (l : List Val) (d : Val) (a : Nat) (ha : a ≤ l.length)
    (f : σ → Int → σ) (g : τ → Val → τ)
    (h : ∀ s t (q : Nat), q < l.length → R s t → R (f s (q : Int)) (g t (l.getD q d))) (s0 : σ) (t0 : τ) (h0 : R s0 t0) :
    R ((rangeI2 (a : Int) (l.length : Int)).foldl f s0) ((l.drop a).foldl g t0) := by
  have hd : l.drop a = (List.range (l.length - a)).map (fun j => l.getD (a + j) d) := by
    have := list_eq_map_range (l.drop a) d
    rw [List.length_drop] at this
    rw [this]
    refine List.map_congr_left fun j _ => ?_
    rw [List.getD_eq_getElem?_getD, List.getElem?_drop, ← List.getD_eq_getElem?_getD]
  rw [hd, rangeI2_natCast]
  exact fold_rel_map R (fun j : Nat => j < l.length - a) (fun j : Nat => ((a + j : Nat) : Int))
    (fun j => l.getD (a + j) d) f g
    (fun s t j hj hst => h s t (a + j) (Nat.add_lt_of_lt_sub' hj) hst)
    _ _ _ (fun j hj => List.mem_range.mp hj) h0

end LoopBridge

end GV
