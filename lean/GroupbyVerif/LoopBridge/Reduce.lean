import GroupbyVerif.LoopBridge.Fold
import GroupbyVerif.Lemmas.Dispatch
import GroupbyVerif.Generated.Loops

/-!
# Bridge: the translated `_group_by_reduce` and `reduce_array_pair` are the hand-written models

`Generated.Loops.group_by_reduce` is produced from the current source text of
`groupby_lib/groupby/numba.py:_group_by_reduce` on every run.  These theorems show that it computes, at every
group code, exactly `groupByReduce` (the model all kernel theorems of C04 / C01 are about), for both
branches of the loop (rows in array order; rows through an indexer with numba's wrap-around of negative positions).

The two arrays `target`, `count` of the loop, read together, are the model's `Int → Partial`, and `aset` on both is
`upd` on the pair: so one loop iteration *is* one `gstep`, as an equation between functions, whatever index it reads.
-/

namespace GV.LoopBridge
open GV GV.Generated.Loops

def partials (target : Int → Val) (count : Int → Int) : Int → Partial := fun g => (target g, count g)

theorem partials_step (red : Red) (t : Int → Val) (c : Int → Int) (tl cl key : Int) (v : Val) :
    (if key < 0 then partials t c else
      partials (aset t (normI tl key) (red (t (normI tl key)) v (c (normI cl key))).1)
        (aset c (normI cl key) (red (t (normI tl key)) v (c (normI cl key))).2))
      = gstep (pstep red) (partials t c) (key, v) := by
  by_cases hk : key < 0
  · simp only [hk, if_true, gstep]
  · rw [normI_nonneg _ _ (by omega), normI_nonneg _ _ (by omega)]
    funext g
    simp only [hk, if_false, partials, gstep, upd, pstep, aset_apply]
    split <;> rfl

theorem group_by_reduce_loop1_step_eq (k : Kind) (red : Red) (n vl tl cl : Int) (gk : Int → Int) (vs : Int → Val)
    (st : Group_by_reduce_loop1St) (p : Int) :
    let st' := group_by_reduce_loop1_step k n gk vl vs red tl cl st p
    partials st'.target st'.count
      = gstep (pstep red) (partials st.target st.count) (gk (normI n p), vs (normI vl p)) := by
  rw [← partials_step]
  simp only [group_by_reduce_loop1_step, decide_eq_true_eq]
  split <;> rfl

theorem group_by_reduce_loop2_step_eq (k : Kind) (red : Red) (n vl tl cl : Int) (gk : Int → Int) (vs : Int → Val)
    (st : Group_by_reduce_loop2St) (p : Int) (hp : p < n) :
    let st' := group_by_reduce_loop2_step k n gk vl vs red true n tl cl st p
    st'.err = st.err ∧ partials st'.target st'.count
      = gstep (pstep red) (partials st.target st.count) (gk (normI n p), vs (normI vl p)) := by
  rw [← partials_step]
  simp only [group_by_reduce_loop2_step, ge_iff_le, Int.not_le.mpr hp, decide_false, Bool.and_false, Bool.false_eq_true,
    if_false, decide_eq_true_eq]
  split <;> exact ⟨rfl, rfl⟩

theorem arrOf_zip {α β : Type} (l : List α) (m : List β) (da : α) (db : β) (hlen : l.length = m.length) (i : Int) :
    arrOf (l.zip m) (da, db) i = (arrOf l da i, arrOf m db i) := by
  simp only [arrOf]
  rcases Nat.lt_or_ge i.toNat l.length with h | h
  · exact zip_getD l m da db _ h (hlen ▸ h)
  · simp only [List.getD_eq_getElem?_getD]
    rw [List.getElem?_eq_none (by simp; omega), List.getElem?_eq_none h, List.getElem?_eq_none (hlen ▸ h)]; rfl

/-- **`_group_by_reduce` without an indexer is `groupByReduce`** over the rows in array order -/
theorem group_by_reduce_plain (k : Kind) (red : Red) (init : Val) (codes : List Int) (vals : List Val)
    (hlen : codes.length = vals.length) (tlen : Int) (cib : Bool) (g : Int) (hg : 0 ≤ g) :
    let r := group_by_reduce k codes.length (arrOf codes 0) vals.length (arrOf vals .nan) tlen (fun _ => init) red
      false [] cib
    r.2 = false ∧ (r.1.1 g, r.1.2 g) = groupByReduce red init (codes.zip vals) g := by
  -- `hg` is not used: the arrays are total functions
  have hz : codes.zip vals = (List.range codes.length).map fun i : Nat =>
      (arrOf codes 0 (normI codes.length i), arrOf vals .nan (normI vals.length i)) := by
    conv => lhs; rw [list_eq_map_range (codes.zip vals) (0, Val.nan), List.length_zip, ← hlen, Nat.min_self]
    refine List.map_congr_left fun i _ => ?_
    simp only [normI_natCast, ← arrOf_natCast, arrOf_zip _ _ _ _ hlen]
  rw [groupByReduce, groupFold, hz]
  exact ⟨rfl, congrFun (fold_rel_map (fun (st : Group_by_reduce_loop1St) m => partials st.target st.count = m)
    (fun _ => True) (fun i : Nat => (i : Int)) _ _ _
    (fun st m i _ h => h ▸ group_by_reduce_loop1_step_eq k red _ _ tlen tlen _ _ st i)
    _ _ _ (fun _ _ => trivial) rfl) g⟩

theorem posAt_some {α : Type} (xs : List α) (d : α) (p : Int) (row : α) (h : posAt xs p = some row) :
    p < xs.length ∧ row = arrOf xs d (normI xs.length p) := by
  rw [posAt] at h
  by_cases hq : normIdx xs.length p < 0
  · rw [if_pos hq] at h; cases h
  · rw [if_neg hq] at h
    obtain ⟨hlt, hrow⟩ := List.getElem?_eq_some_iff.mp h
    refine ⟨?_, ?_⟩
    · -- a wrapped position is below `n`; an unwrapped one is its own index
      have hlt' : normIdx xs.length p < xs.length := (Int.toNat_lt (Int.not_lt.mp hq)).mp hlt
      by_cases hp : p < 0
      · exact Int.lt_of_lt_of_le hp (Int.natCast_nonneg _)
      · rwa [normIdx, if_neg hp] at hlt'
    · show row = xs.getD (normIdx xs.length p).toNat d
      rw [getD_eq_getElem xs d hlt]; exact hrow.symm

theorem takePositions_some {α : Type} (xs : List α) (d : α) (ps : List Int) (sel : List α)
    (h : takePositions xs ps = some sel) :
    (∀ p ∈ ps, p < xs.length) ∧ sel = ps.map fun p => arrOf xs d (normI xs.length p) := by
  induction ps generalizing sel with
  | nil => cases h; exact ⟨fun _ hp => (nomatch hp), rfl⟩
  | cons p ps ih =>
    rw [takePositions_eq] at h
    obtain ⟨row, rest, hrow, hrest, rfl⟩ := mapM_cons_eq_some.mp h
    obtain ⟨hp, hr⟩ := posAt_some xs d p row hrow
    obtain ⟨ih1, ih2⟩ := ih rest hrest
    exact ⟨fun q hq => (List.mem_cons.mp hq).elim (· ▸ hp) (ih1 q), by rw [hr, ih2]; rfl⟩

/-- **`_group_by_reduce` with an indexer is `groupByReduce` over `rows[indexer]`** (array indexing with
wrap-around of negative positions), and it does not raise when every position is inside `[-n, n)` -/
theorem group_by_reduce_indexer (k : Kind) (red : Red) (init : Val) (codes : List Int) (vals : List Val)
    (hlen : codes.length = vals.length) (tlen : Int) (ps : List Int) (sel : List Row)
    (hsel : takePositions (codes.zip vals) ps = some sel) (g : Int) (hg : 0 ≤ g) :
    let r := group_by_reduce k codes.length (arrOf codes 0) vals.length (arrOf vals .nan) tlen (fun _ => init) red
      true ps true
    r.2 = false ∧ (r.1.1 g, r.1.2 g) = groupByReduce red init sel g := by
  -- `hg` is not used: the arrays are total functions
  obtain ⟨hps, hsel⟩ := takePositions_some _ (0, Val.nan) _ _ hsel
  simp only [List.length_zip, ← hlen, Nat.min_self] at hps hsel
  have hz : sel = ps.map fun p => (arrOf codes 0 (normI codes.length p), arrOf vals .nan (normI vals.length p)) := by
    rw [hsel]
    refine List.map_congr_left fun p _ => ?_
    rw [arrOf_zip _ _ _ _ hlen, ← hlen]
  rw [groupByReduce, groupFold, hz]
  have h := fold_rel_map
    (fun (st : Group_by_reduce_loop2St) m => st.err = false ∧ partials st.target st.count = m) (· < (codes.length : Int))
    (fun p => p) _ _ _ (fun st m p hp h => by
      obtain ⟨e1, e2⟩ :=
        group_by_reduce_loop2_step_eq k red _ vals.length tlen tlen (arrOf codes 0) (arrOf vals .nan) st p hp
      exact ⟨e1.trans h.1, h.2 ▸ e2⟩)
    ps ⟨fun _ => init, fun _ => 0, false⟩ _ hps ⟨rfl, rfl⟩
  rw [List.map_id'] at h
  exact ⟨h.1, congrFun h.2 g⟩

/-- a position at or beyond the end raises (the error flag is set) when bounds are checked -/
theorem group_by_reduce_indexer_oob_step (k : Kind) (red : Red) (gk : Int → Int) (vs : Int → Val) (n vl tl cl : Int)
    (st : Group_by_reduce_loop2St) (p : Int) (hp : p ≥ n) :
    (group_by_reduce_loop2_step k n gk vl vs red true n tl cl st p).err = true := by
  simp [group_by_reduce_loop2_step, hp]

/-! ### `reduce_array_pair` -/

/-- **`reduce_array_pair` is the pairwise merge `mergePair`** at every position (called with both count arrays, as
`combine_chunk_results_for_factorized_key` does): an empty right partial is skipped, otherwise the reducer sees the
left accumulator, the right accumulator and the left count -/
theorem reduce_array_pair_eq (k : Kind) (red : Red) (n : Nat) (x y : Int → Val) (cx cy : Int → Int) (i : Nat)
    (hi : i < n) :
    let r := reduce_array_pair k n x n y red true n cx true n cy
    r.2 = false ∧ (r.1 i, cx i + cy i) = mergePair red (x i, cx i) (y i, cy i) := by
  -- iteration `t` writes cell `t` only: `mergePair`'s value, which for an empty right partial is the `x t` it holds
  have h := foldl_rows (reduce_array_pair_loop1_step k n x n y red n true cx n true cy) (fun t : Nat => (t : Int))
    Reduce_array_pair_loop1St.out' (fun t st => ∀ j : Nat, t ≤ j → st.out' (j : Int) = x j)
    (fun j => (mergePair red (x j, cx j) (y j, cy j)).1) 0 n (Nat.zero_le _)
    (fun t st _ _ hinv _ => by
      have hs : (reduce_array_pair_loop1_step k n x n y red n true cx n true cy st t).out'
          = aset st.out' t (mergePair red (x t, cx t) (y t, cy t)).1 := by
        simp only [reduce_array_pair_loop1_step, normI_natCast, Bool.true_and, Bool.not_true, Bool.false_eq_true,
          if_false, decide_eq_true_eq, mergePair]
        split
        · rw [← hinv t (Nat.le_refl t), aset_self]
        · rfl
      refine ⟨fun j hj => ?_, fun j hj => ?_, ?_⟩
      · rw [hs, aset_other _ _ _ _ (Int.ne_of_gt (Int.ofNat_lt.mpr hj))]; exact hinv j (Nat.le_of_succ_le hj)
      · rw [hs, aset_other _ _ _ _ (Int.ne_of_lt (Int.ofNat_lt.mpr hj))]
      · rw [hs, aset_same])
    ⟨x⟩ (fun _ _ => rfl) (fun _ hj => absurd hj (Nat.not_lt_zero _))
  rw [Nat.sub_zero, ← List.range_eq_range', ← rangeI_natCast] at h
  refine ⟨rfl, ?_⟩
  simp only [reduce_array_pair, h.2 i hi, mergePair]
  split
  · next hc => rw [hc, Int.add_zero]
  · rfl

end GV.LoopBridge
