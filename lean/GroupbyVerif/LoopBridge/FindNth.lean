import GroupbyVerif.LoopBridge.Fold
import GroupbyVerif.Generated.Loops
import GroupbyVerif.Lemmas.RowSel

/-!
# Bridge: the translated `_find_nth` is `findNth` (`Model/RowSel.lean`)

The translated loop keeps `out` / `seen` as arrays indexed by the group code; the model keeps one record per group.
The source's `seen` is a 64-bit integer and no wrap is generated for it, the model wraps at a width `w`: the bridge is
stated at `w = 64` (`C15.seen_width_nth`), and the relation carries "`seen` is at most the number of rows visited so
far", which makes the wrap the identity below `2^63` rows.
A row dropped by the mask behaves exactly like a row with a null key (`effCodes`).
-/

namespace GV.LoopBridge
open GV GV.Generated.Loops

/-- the translated state against the model's records after `c` rows: `out` and `seen` agree at every group code,
`seen` is at most `c`, and a raised error flag has a group whose model assertion failed (that direction is the one
`find_nth_eq` states) -/
def NthRel (c : Nat) (st : Find_nth_loop1St) (m : Int → NthSt) : Prop :=
  (∀ g : Int, 0 ≤ g → st.out' g = (m g).out) ∧
  (∀ g : Int, 0 ≤ g → st.seen g = (m g).seen ∧ 0 ≤ (m g).seen ∧ (m g).seen ≤ c) ∧
  (st.err = true → ∃ g : Int, 0 ≤ g ∧ (m g).failed = true)

theorem nth_step_rel (k : Kind) (codes : List Int) (msk : List Bool) (masked : Bool) (n' : Int) (ng ml : Int)
    (c : Nat) (hc : ((c : Int) + 1) < 2 ^ 63) (st : Find_nth_loop1St) (m : Int → NthSt) (i : Nat)
    (h : NthRel c st m) :
    NthRel (c + 1)
      (find_nth_loop1_step k codes.length (arrOf codes 0) n' ml masked (arrOf msk true) masked ng ng st (i : Int))
      (gstep (nthStep 64 n') m ((if masked && !(msk.getD i true) then -1 else codes.getD i 0), i)) := by
  obtain ⟨hout, hseen, herr⟩ := h
  have hseen' : ∀ g : Int, 0 ≤ g → st.seen g = (m g).seen ∧ 0 ≤ (m g).seen ∧ (m g).seen ≤ (c + 1 : Nat) :=
    fun g hg => ⟨(hseen g hg).1, (hseen g hg).2.1, Int.le_trans (hseen g hg).2.2 (Int.ofNat_le.mpr (Nat.le_succ c))⟩
  simp only [find_nth_loop1_step, normI_natCast, arrOf_natCast, ite_skip]
  generalize codes.getD i 0 = key
  generalize msk.getD i true = mb
  rcases eff_cases masked mb key with ⟨he, hd⟩ | ⟨he, hk0, hk, hm⟩
  · rw [gstep, if_pos he, if_pos hd]
    exact ⟨hout, hseen', herr⟩
  · obtain ⟨hs, hs0, hsc⟩ := hseen _ hk0
    have ho := hout _ hk0
    have hw : wrapS 64 ((m key).seen + 1) = (m key).seen + 1 :=
      wrapS_succ 64 (by decide) _ hs0 (Int.lt_of_le_of_lt (Int.add_le_add_right hsc 1) hc)
    rw [gstep, he, if_neg (Int.not_lt.mpr hk0)]
    simp only [hk, hm, Bool.or_false, Bool.false_eq_true, if_false, normI_nonneg _ _ hk0, hs, ho, decide_eq_true_eq,
      ite_aset_left]
    have hcell : (m key).seen + 1 = wrapS 64 ((m key).seen + 1) ∧ 0 ≤ wrapS 64 ((m key).seen + 1) ∧
        wrapS 64 ((m key).seen + 1) ≤ (c + 1 : Nat) := by
      rw [hw]; exact ⟨rfl, Int.le_add_one hs0, Int.add_le_add_right hsc 1⟩
    refine ⟨forall_aset_upd (fun o (s : NthSt) => o = s.out) hout key (by simp only [nthStep]),
      forall_aset_upd (fun x (s : NthSt) => x = s.seen ∧ 0 ≤ s.seen ∧ s.seen ≤ (c + 1 : Nat)) hseen' key hcell,
      fun he => ?_⟩
    -- the flag is raised only when the model's assertion fails for `key` (or was raised before)
    by_cases hold : st.err = true
    · obtain ⟨g, h0, hf⟩ := herr hold
      refine ⟨g, h0, ?_⟩
      simp only [upd]; split
      · subst g; simp [nthStep, hf]
      · exact hf
    · refine ⟨key, hk0, ?_⟩
      simp only [upd, if_true, nthStep]
      by_cases hsn : (m key).seen = n'
      · simp only [hsn, if_true, hold, Bool.false_or, Bool.not_eq_true', decide_eq_false_iff_not] at he
        simp [hsn, he]
      · simp [hsn, hold] at he

/-- **`_find_nth` is `findNth`** on the effective codes: at every group the translated loop's `out` entry is the
model's, and it does not trip its `assert` (the error flag stays false) -/
theorem find_nth_eq (k : Kind) (codes : List Int) (msk : List Bool) (masked : Bool) (n : Int) (ng ml : Int)
    (hlen : (codes.length : Int) < 2 ^ 63) (g : Int) (hg : 0 ≤ g) :
    let r := find_nth k codes.length (arrOf codes 0) ng n masked ml (arrOf msk true)
    r.1 g = (findNth 64 (effCodes masked codes msk) n g).out ∧
      (r.2 = true → ∃ g' : Int, 0 ≤ g' ∧ (findNth 64 (effCodes masked codes msk) n g').failed = true) := by
  intro r
  -- one statement for both scan directions
  have key := fun (n' : Int) (is : List Nat) (hl : is.length ≤ codes.length) => fold_rel_map_cnt
    (fun c (s : Find_nth_loop1St) (t : Int → NthSt) => c ≤ codes.length → NthRel c s t)
    (fun _ : Nat => True) (fun i : Nat => (i : Int))
    (fun i => ((if masked && !(msk.getD i true) then (-1 : Int) else codes.getD i 0), i)) _ _
    (fun c s t i _ hr hc1 => nth_step_rel k codes msk masked n' ng ml c (Int.lt_of_le_of_lt (Int.ofNat_le.mpr hc1) hlen)
      s t i (hr (Nat.le_of_succ_le hc1)))
    is 0 ⟨fun _ => -1, fun _ => 0, false⟩ (fun _ => nthInit) (fun _ _ => trivial)
    (fun _ => ⟨fun _ _ => rfl, fun _ _ => ⟨rfl, Int.le_refl 0, Int.le_refl 0⟩, fun h => nomatch h⟩) (Nat.zero_add _ ▸ hl)
  have hz := effCodes_zipIdx masked codes msk
  by_cases hn : 0 ≤ n
  · have hk := key n (List.range codes.length) (Nat.le_of_eq List.length_range)
    simp only [r, find_nth, findNth, scanRows, hz, groupFold, hn, decide_true, if_true, rangeI_natCast]
    exact ⟨hk.1 g hg, hk.2.2⟩
  · have hk := key (-n - 1) (List.range codes.length).reverse (Nat.le_of_eq (List.length_reverse.trans List.length_range))
    simp only [r, find_nth, findNth, scanRows, hz, groupFold, hn, decide_false, if_false, rangeI_natCast,
      Bool.false_eq_true, ← List.map_reverse]
    exact ⟨hk.1 g hg, hk.2.2⟩

/-- with the counter theorems of C15 (`nth_eq_spec`: the model never trips the assertion): the translated loop
returns exactly the specified row of every group and its error flag stays false -/
theorem find_nth_eq_spec (k : Kind) (codes : List Int) (msk : List Bool) (masked : Bool) (n : Int) (ng ml : Int)
    (hlen : (codes.length : Int) < 2 ^ 63)
    (hmodel : ∀ g : Int, 0 ≤ g → (findNth 64 (effCodes masked codes msk) n g).out = specNth (effCodes masked codes msk) n g ∧
      (findNth 64 (effCodes masked codes msk) n g).failed = false)
    (g : Int) (hg : 0 ≤ g) :
    let r := find_nth k codes.length (arrOf codes 0) ng n masked ml (arrOf msk true)
    r.1 g = specNth (effCodes masked codes msk) n g ∧ r.2 = false := by
  intro r
  have h := find_nth_eq k codes msk masked n ng ml hlen g hg
  refine ⟨h.1.trans (hmodel g hg).1, ?_⟩
  cases hr : r.2 with
  | false => rfl
  | true =>
    obtain ⟨g', hg', hf⟩ := h.2 hr
    rw [(hmodel g' hg').2] at hf
    cases hf

end GV.LoopBridge
