import GroupbyVerif.LoopBridge.Rolling
import GroupbyVerif.Lemmas.RingMax

/-!
# Bridge: the translated `min_or_max_and_position` and `_rolling_max_or_min_1d` are `minOrMax` / the `mstep` ring model

`min_or_max_and_position` has a `while` loop (skip the leading nulls, stop at the last cell): it is translated with the
declared iteration bound `len(arr)`, and the flag "the bound was too small" is part of the error flag, proved false here.
`_rolling_max_or_min_1d` rescans the group's buffer row with `min_or_max_and_position` once the window is full and the new
value did not become the best (the source forces `need_recalc = True`).
-/

namespace GV.LoopBridge
open GV GV.Generated.Loops

/-- the `while` condition `is_null(arr[j]) and j < len(arr) - 1` at a cursor that has not passed the final one -/
theorem skip_cond (k : Kind) (l : List Val) (d : Val) (j : Nat) (hj : j ≤ min (leadNulls k l) (l.length - 1)) :
    (isNull k (l.getD j d) && decide ((j : Int) < (l.length : Int) - 1)) =
      decide (j < min (leadNulls k l) (l.length - 1)) := by
  have hcast : (j : Int) < (l.length : Int) - 1 ↔ j < l.length - 1 := by omega
  rw [decide_eq_decide.mpr hcast]
  rcases Nat.lt_or_eq_of_le hj with h | h
  · have ⟨h1, h2⟩ := Nat.lt_min.mp h
    rw [leadNulls_null k l j h1 d, decide_eq_true h, decide_eq_true h2]; rfl
  · rw [decide_eq_false (Nat.not_lt.mpr (Nat.le_of_eq h.symm))]
    by_cases hf : leadNulls k l < l.length - 1
    · rw [h, Nat.min_eq_left (Nat.le_of_lt hf), leadNulls_stop k l (Nat.lt_of_lt_of_le hf (Nat.sub_le _ _)) d]; rfl
    · rw [h, Nat.min_eq_right (Nat.le_of_not_lt hf), decide_eq_false (Nat.lt_irrefl _)]; exact Bool.and_false _

/-- a counter that advances while it is below `c` -/
theorem natCast_min_succ (t c : Nat) :
    (if min t c < c then ((min t c : Nat) : Int) + 1 else ((min t c : Nat) : Int)) = ((min (t + 1) c : Nat) : Int) := by
  by_cases h : t < c
  · rw [Nat.min_eq_left (Nat.le_of_lt h), Nat.min_eq_left (Nat.succ_le_of_lt h), if_pos h, Int.natCast_succ]
  · have hc := Nat.le_of_not_lt h
    rw [Nat.min_eq_right hc, Nat.min_eq_right (Nat.le_succ_of_le hc), if_neg (Nat.lt_irrefl c)]

/-- the `while` loop, run for its declared bound of `len(arr)` iterations, leaves the cursor at the first non-null cell, or
at the last cell if there is none -/
theorem skip_loop (k : Kind) (l : List Val) (d : Val) (arr : Int → Val)
    (harr : ∀ j : Nat, j < l.length → arr (j : Int) = l.getD j d) :
    ((rangeI l.length).foldl (min_or_max_and_position_loop1_step k l.length arr) ⟨0⟩).i
      = ((min (leadNulls k l) (l.length - 1) : Nat) : Int) := by
  have hc := skip_cond k l d
  have hcn : min (leadNulls k l) (l.length - 1) ≤ l.length - 1 := Nat.min_le_right _ _
  generalize min (leadNulls k l) (l.length - 1) = c at hc hcn ⊢
  have h := foldl_rangeI_inv (fun t s => s.i = ((min t c : Nat) : Int))
    (min_or_max_and_position_loop1_step k l.length arr) l.length ⟨0⟩ (by simp)
    (fun t s ht hs => by
      have hlt : min t c < l.length := Nat.lt_of_le_of_lt (Nat.min_le_left _ _) ht
      rw [min_or_max_and_position_loop1_step, hs, normI_natCast, harr _ hlt, hc _ (Nat.min_le_right _ _)]
      simp only [decide_eq_true_eq]
      exact natCast_min_succ t c)
  rw [h, Nat.min_eq_right (Nat.le_trans hcn (Nat.sub_le _ _))]

/-- the kernels' comparison `(want_max and v >= best) or (want_min and v <= best)` with `want_min = not want_max` -/
theorem pick_cmp (b x y : Bool) : (b && x || !b && y) = if b then x else y := by
  cases b <;> simp

/-- the model's scan seen from the cursor `c` at which the kernel's `while` loop stops: start at cell `c`, fold the rest -/
theorem minOrMax_cursor (k : Kind) (b : Bool) (l : List Val) (hn : 0 < l.length) (d : Val) :
    minOrMax k b l = (l.drop (min (leadNulls k l) (l.length - 1) + 1)).foldl (fun best v => if isNull k v then best
      else if (if b then v.ge best else v.le best) then v else best) (l.getD (min (leadNulls k l) (l.length - 1)) d) := by
  have hle := leadNulls_le k l
  rw [minOrMax, dropWhile_eq_drop]
  by_cases hall : leadNulls k l = l.length
  · -- every cell is null: the last cell is returned
    rw [hall, Nat.min_eq_right (Nat.sub_le _ _), Nat.sub_add_cancel hn, List.drop_length, List.foldl_nil,
      getD_eq_getElem l d (Nat.sub_lt hn Nat.one_pos), List.getLastD_eq_getLast?, List.getLast?_eq_getElem?,
      List.getElem?_eq_getElem (Nat.sub_lt hn Nat.one_pos)]
    rfl
  · have hf : leadNulls k l < l.length := Nat.lt_of_le_of_ne hle hall
    rw [Nat.min_eq_left (Nat.le_sub_one_of_lt hf), List.drop_eq_getElem_cons hf, getD_eq_getElem l d hf]

/-- **`min_or_max_and_position` returns `minOrMax`** (the extremum of the non-null cells scanning with `>=` / `<=`, the
last cell if all are null), and its `while` loop stays within the declared bound -/
theorem min_or_max_and_position_eq (k : Kind) (l : List Val) (hn : 0 < l.length) (d : Val) (arr : Int → Val)
    (harr : ∀ j : Nat, j < l.length → arr (j : Int) = l.getD j d) (wantMax : Bool) :
    let r := min_or_max_and_position k l.length arr wantMax
    r.2 = false ∧ r.1.1 = minOrMax k wantMax l := by
  intro r
  -- the `while` test is false at the cursor: no error flag, and the scan starts right behind it
  have hcond := skip_cond k l d _ (Nat.le_refl _)
  rw [decide_eq_false (Nat.lt_irrefl _)] at hcond
  have hcn : min (leadNulls k l) (l.length - 1) < l.length :=
    Nat.lt_of_le_of_lt (Nat.min_le_right _ _) (Nat.sub_lt hn Nat.one_pos)
  rw [minOrMax_cursor k wantMax l hn d]
  simp only [r, min_or_max_and_position, skip_loop k l d arr harr]
  generalize min (leadNulls k l) (l.length - 1) = c at hcond hcn ⊢
  rw [normI_natCast, harr c hcn, hcond, ← Int.natCast_succ]
  refine ⟨rfl, ?_⟩
  exact fold_rangeI2_drop_rel (fun (s : Min_or_max_and_position_loop2St) (b : Val) => s.best = b) l d (c + 1) hcn
    (min_or_max_and_position_loop2_step k l.length arr wantMax c) _
    (fun s t q hq hst => by
      subst hst
      rw [min_or_max_and_position_loop2_step, normI_natCast, harr q hq, pick_cmp]
      exact apply_ite Min_or_max_and_position_loop2St.best _ _ _) _ _ rfl

/-! ### the rolling extremum kernel -/

/-- the kernel's flag `need_recalc` (forced to `True`, reset when the new value becomes the best) in closed form -/
theorem need_recalc_eq (a c : Bool) : (if a = true then true else if c = true then false else true) = !(!a && c) := by
  cases a <;> cases c <;> rfl

section max
variable {k : Kind} {gkl ml : Int} {gk : Int → Int} {mk : Int → Bool} {masked : Bool} {st : Rolling_max_or_min_loop2St}

theorem max_step_skip {w mp : Int} {ms wmax wmin : Bool} {l1 l2 l3 l4 l5 l6 l7 l8 : Int} {v : Val}
    (h : (decide (gk (normI gkl (st.i + 1)) < 0) || (masked && !mk (normI ml (st.i + 1)))) = true) :
    rolling_max_or_min_loop2_step k gkl gk w mp ml ms mk wmax masked wmin l1 l2 l3 l4 l5 l6 l7 l8 st v =
      { st with i := st.i + 1 } := by
  unfold rolling_max_or_min_loop2_step
  dsimp only
  rw [ite_skip, if_pos h]

-- of the length parameters only `l3` is read: the row length handed to `min_or_max_and_position`;
-- stated at `want_min = not want_max`, as the source sets it
theorem max_step_sel {w mp : Int} {ms wmax : Bool} {l1 l2 l3 l4 l5 l6 l7 l8 : Int} {v : Val}
    (g i' : Int) (hi : st.i + 1 = i') (hi0 : 0 ≤ i') (hg : gk i' = g) (hg0 : 0 ≤ g) (hm : (masked && !mk i') = false)
    (hp : 0 ≤ st.group_buffer_pos g) {b old o : Val} {n : Int} {full : Bool}
    (hb : st.current_best g = b) (hn : st.group_non_null g = n) (hfull : decide (st.group_n_seen g ≥ w) = full)
    (hold : st.group_buffers g (st.group_buffer_pos g) = old) (ho : st.out' i' = o) :
    let p := st.group_buffer_pos g
    let evict := full && !isNull k old
    let n' := runCnt k evict n v
    let improves := !isNull k v && (decide ((if evict then n - 1 else n) = 0) || if wmax then v.ge b else v.le b)
    let mm := min_or_max_and_position k l3 (fun c => aset2 st.group_buffers g p v g c) wmax
    let best' := if full && !improves then mm.1.1 else if improves then v else b
    rolling_max_or_min_loop2_step k gkl gk w mp ml ms mk wmax masked (!wmax) l1 l2 l3 l4 l5 l6 l7 l8 st v =
      ⟨i', aset st.group_non_null g n', aset2 st.group_buffers g p v, aset st.current_best g best',
        aset st.pos_of_current_best g (if full && !improves then Int.fmod (mm.1.2 - p) w else if improves then p
          else st.pos_of_current_best g),
        aset st.group_buffer_pos g (Int.fmod (p + 1) w),
        aset st.group_n_seen g (if full then st.group_n_seen g else st.group_n_seen g + 1),
        aset st.out' i' (if n' ≥ mp then best' else o),
        if full && !improves then (st.err || !(!mm.2)) else st.err⟩ := by
  intro p evict n' improves mm best'
  have hng : ¬ g < 0 := by omega
  simp only [rolling_max_or_min_loop2_step, hi, normI_nonneg _ _ hi0, hg, hng, decide_false, Bool.false_eq_true, if_false, hm,
    normI_nonneg _ _ hg0, normI_nonneg _ _ hp, hb, hn, hfull, hold, ho, ite_aset_left, ite_aset_right, ite_aset, aset_aset,
    aset_same, need_recalc_eq, Bool.or_assoc, pick_cmp, ite_bnot, ite_band, p, evict, n', improves, mm, best', runCnt,
    decide_eq_true_eq]

/-- `pos_of_current_best` is not tracked: with `need_recalc` forced nothing reads it, which is why the position
`min_or_max_and_position` returns is left open -/
structure MaxInv (nullv : Val) (w : Nat) (t : Nat) (st : Rolling_max_or_min_loop2St) (m : Int → RS) : Prop where
  hi : st.i + 1 = (t : Int)
  herr : st.err = false
  hnanb : ∀ g c : Int, st.group_buffers g c = .nan → nullv = .nan  -- the form of `ShiftInv.hnan`, also in `hbest`
  hring : RingRel w st.group_buffers st.group_buffer_pos st.group_n_seen m
  hbest : ∀ g : Int, 0 ≤ g → st.current_best g = (m g).best ∧ ((m g).best = .nan → nullv = .nan)
  hnn : ∀ g : Int, 0 ≤ g → st.group_non_null g = (m g).nn

theorem max_cell (k : Kind) (nullv : Val) (wantMax : Bool) (w minp : Nat) (b a : RS) (v : Val)
    (hn : a.best = .nan → nullv = .nan) :
    (if a.nn ≥ (minp : Int) then a.best else nullv) =
      cellVal (fun a _ => a) nullv (rollOut k (if wantMax then RollOp.max else RollOp.min) w minp b a v) := by
  rw [rollOut_extremum]
  split
  · exact (cellVal_val _ _ _ hn).symm
  · rfl

theorem max_step {wantMax : Bool} {nullv : Val} {w : Nat} (hw : 0 < w) {minp : Nat} {ng ol : Int} {t : Nat} {m : Int → RS}
    {r : CRow} (hcode : gk (t : Int) = r.code) (hsel : (masked && !mk (t : Int)) = !r.sel)
    (hv : r.val = .nan → nullv = .nan) (h : MaxInv nullv w t st m) (hun : st.out' (t : Int) = nullv) :
    let op := if wantMax then RollOp.max else RollOp.min
    let st' := rolling_max_or_min_loop2_step k gkl gk w minp ml masked mk wantMax masked (!wantMax) ng ng w ng ng ng ng ol
      st r.val
    MaxInv nullv w (t + 1) st' (gstep (rollStep k op w) m (rollRow r)) ∧
      (∀ j : Int, j ≠ (t : Int) → st'.out' j = st.out' j) ∧
      st'.out' (t : Int) = if (rollRow r).1 < 0 then nullv else cellVal (fun a _ => a) nullv
        (rollOut k op w minp (m (rollRow r).1) (rollStep k op w (m (rollRow r).1) (rollRow r).2) (rollRow r).2) := by
  intro op st'
  rcases rollRow_cases r with ⟨hneg, hc⟩ | ⟨hlive, hk0, hs⟩
  · have e : st' = { st with i := st.i + 1 } :=
      max_step_skip (by rw [h.hi, normI_natCast, normI_natCast, hcode, hsel]; exact hc)
    rw [e, gstep, if_pos hneg, if_pos hneg]
    exact ⟨⟨congrArg (· + 1) h.hi, h.herr, h.hnanb, h.hring, h.hbest, h.hnn⟩, fun _ _ => rfl, hun⟩
  · have hk : ¬ r.code < 0 := Int.not_lt.mpr hk0
    have hold := h.hring.read hk0 (nullValue k)
    have e : st' = _ := max_step_sel r.code t h.hi (Int.natCast_nonneg t) hcode hk0 (by rw [hsel, hs]; rfl)
      (h.hring.pos_nonneg hk0) (hb := (h.hbest _ hk0).1) (hn := h.hnn _ hk0) (hfull := h.hring.full hk0)
      (hold := hold.symm) (ho := hun)
    have hnanb' := forall_aset2 (· = Val.nan → nullv = Val.nan) h.hnanb r.code (st.group_buffer_pos r.code) hv
    -- the rescan of the group's buffer row by the translated helper is the model's `minOrMax`
    have hrow := h.hring.row_write hk0 r.val
    obtain ⟨hmm2, hmm1⟩ := min_or_max_and_position_eq k _ (by rw [rowV_length]; exact hw) .nan
      (fun c => aset2 st.group_buffers r.code (st.group_buffer_pos r.code) r.val r.code c)
      (fun j hj => (rowV_getD _ _ _ _ (by simpa using hj) _).symm) wantMax
    rw [rowV_length] at hmm1 hmm2
    rw [hrow] at hmm1
    -- a NaN coming out of the rescan is a NaN cell of the buffer
    have hmmnan : minOrMax k wantMax ((m r.code).buf.set (m r.code).pos r.val) = .nan → nullv = .nan := by
      intro hnan
      have hmem := minOrMax_mem k wantMax ((m r.code).buf.set (m r.code).pos r.val)
        (List.ne_nil_of_length_pos (by rw [← hrow, rowV_length]; exact hw))
      rw [hnan, ← hrow] at hmem
      obtain ⟨j, _, hj⟩ := List.mem_map.mp hmem
      exact hnanb' _ _ hj
    rw [hmm1, hmm2, h.herr] at e
    rw [hlive, gstep, rollStep_extremum]
    dsimp only
    rw [if_neg hk, if_neg hk, e]
    have hB : (mstep k w wantMax (m r.code) r.val).best = .nan → nullv = .nan :=
      ite_cases (· = Val.nan → nullv = Val.nan) _ hmmnan
        (ite_cases (· = Val.nan → nullv = Val.nan) _ hv (h.hbest _ hk0).2)
    refine ⟨⟨rfl, ite_cases (· = false) _ rfl rfl, hnanb',
      h.hring.write hw hk0 _ _ rfl rfl rfl,
      forall_aset_upd (fun (b : Val) (s : RS) => b = s.best ∧ (s.best = .nan → nullv = .nan)) h.hbest _ ⟨rfl, hB⟩,
      forall_aset_upd (fun (a : Int) (s : RS) => a = s.nn) h.hnn _ rfl⟩, fun j hj => aset_other _ _ _ _ hj, ?_⟩
    exact (aset_same _ _ _).trans (max_cell k nullv wantMax w minp (m r.code) (mstep k w wantMax (m r.code) r.val) r.val hB)

end max

/-- as `cum2of1` -/
def mx2of1 (s : Rolling_max_or_min_loop1St) : Rolling_max_or_min_loop2St :=
  ⟨s.i, s.group_non_null, s.group_buffers, s.current_best, s.pos_of_current_best, s.group_buffer_pos, s.group_n_seen, s.out', s.err⟩

/-- **`_rolling_max_or_min_1d` (with its helper `min_or_max_and_position`) is the ring-buffer model `rolling k max|min`**:
every output cell holds the model's cell, no error is raised and the helper's `while` loop stays within its bound -/
theorem rolling_max_or_min_eq (k : Kind) (wantMax : Bool) (w : Nat) (hw : 0 < w) (minp : Option Nat) (codes : List Int)
    (chunks : List (List Val)) (msk : List Bool) (masked : Bool) (ng ml : Int)
    (hlen : codes.length = chunks.flatten.length)
    (hnan : ∀ v ∈ chunks.flatten, v = .nan → nullValue k = .nan) :
    let rows := cumRows codes chunks.flatten masked msk
    let r := rolling_max_or_min k codes.length (arrOf codes 0) chunks ng w minp.isSome (minp.getD 0) masked ml
      (arrOf msk true) (nullValue k) wantMax
    r.2 = false ∧ ∀ j, j < codes.length →
      r.1 (j : Int) = cellAt (fun a _ => a) (nullValue k)
        (rolling k (if wantMax then RollOp.max else RollOp.min) w (minp.getD w) rows) j := by
  intro rows r
  have hr : ∀ s : Rolling_max_or_min_loop1St, (s.out', s.err) = ((mx2of1 s).out', (mx2of1 s).err) := fun _ => rfl
  simp only [r, rows, rolling_max_or_min, minPeriods_default, hr, cellAt_eq_cellOr, rolling_cumRows]
  have hloop := foldl_chunks_sim
    (rolling_max_or_min_loop1_step k codes.length (arrOf codes 0) w (minp.getD w : Nat) ml masked (arrOf msk true) wantMax masked
      (!wantMax) ng w ng ng ng ng ng codes.length)
    (rolling_max_or_min_loop2_step k codes.length (arrOf codes 0) w (minp.getD w : Nat) ml masked (arrOf msk true) wantMax masked
      (!wantMax) ng ng w ng ng ng ng codes.length)
    mx2of1 (fun _ _ => rfl) chunks .nan (·.out') (rollStep k (if wantMax then RollOp.max else RollOp.min) w)
    (fun s v => rollOut k _ w (minp.getD w) s (rollStep k _ w s v) v) (fun i => rollRow (cumRow codes chunks.flatten masked msk i))
    (cellVal (fun a _ => a) (nullValue k)) (nullValue k) (MaxInv (nullValue k) w) codes.length hlen
    ⟨-1, fun _ _ => nullValue k, fun _ => 0, fun _ => 0, fun _ => nullValue k, fun _ => 0, fun _ => 0, fun _ => nullValue k, false⟩
    (fun _ => rinit k w)
    ⟨rfl, rfl, fun _ _ h => h, RingRel.init k w hw, fun _ _ => ⟨rfl, fun h => h⟩, fun _ _ => rfl⟩
    (fun t s m ht hmem hinv hun =>
      max_step (r := cumRow codes chunks.flatten masked msk t) hw (cumRow_code _ _ _ _ _) (cumRow_sel _ _ _ _ _)
        (hnan _ hmem) hinv (hun _ (Int.le_refl _)))
  exact ⟨hloop.1.herr, hloop.2.2⟩

end GV.LoopBridge
