import GroupbyVerif.Generated.Loops
import GroupbyVerif.Lemmas.Factorize
import GroupbyVerif.LoopBridge.Fold

/-!
# Bridge: the translated `_combine_factorizations` factorizes the mixed-radix keys by first appearance

`_combine_factorizations(codes, code_weights, code_tracker)` walks the rows of the 2-d array of per-key codes,
computes the mixed-radix key of each row with `_weight_code_sum`, and numbers the keys in order of first appearance
through the tracker (an array, or a dict: two numba specialisations, two translations).  It re-uses the rows of `codes`
itself to collect the first row of every new key (`uniques = codes` is an alias, eliminated by the translator: both
names are one array): the invariant `CFInv` carries "rows at or after the current one are untouched" that makes this
sound (`group_id <= i`).  The loops are treated for any list of row keys, the tracker apart; the keys are those of
`_weight_code_sum` in the last step only.
-/

namespace GV.LoopBridge
open GV GV.Generated.Loops

/-- the three cases of a row: a null key, a new key (its tracker cell is still `-1`), a key seen before -/
theorem cf_arr_step_eq (k : Kind) (wl : Int) (w : Int → Int) (ccl tlen l0 l1 : Int)
    (cc tr : Int → Int) (codes : Int → Int → Int) (gid : Int) (e : Bool) (i : Int) :
    combine_factorizations_arr_loop1_step k wl w true ccl tlen l0 l1 ⟨cc, tr, codes, gid, e⟩ i =
      let r := weight_code_sum k l1 (codes (normI l0 i)) wl w
      let x := normI tlen r.1
      if r.1 = -1 then ⟨aset cc (normI ccl i) (-1), tr, codes, gid, e || r.2⟩
      else if tr x = -1 then
        ⟨aset cc (normI ccl i) gid, aset tr x gid, asetRow codes (normI l0 gid) (codes (normI l0 i)), gid + 1, e || r.2⟩
      else ⟨aset cc (normI ccl i) (tr x), tr, codes, gid, e || r.2⟩ := by
  simp only [combine_factorizations_arr_loop1_step, Bool.not_not, if_true]
  generalize weight_code_sum k l1 _ wl w = r
  by_cases h1 : r.1 = -1
  · simp only [h1, decide_true, if_true]
  · by_cases h2 : tr (normI tlen r.1) = -1 <;>
      simp only [h1, h2, decide_false, decide_true, Bool.false_eq_true, if_false, if_true]

/-- the dict tracker read as "`-1` when absent" gives the same three cases -/
theorem cf_dict_step_eq (k : Kind) (wl : Int) (w : Int → Int) (ccl tlen l0 l1 : Int)
    (cc : Int → Int) (tr : Int → Option Int) (codes : Int → Int → Int) (gid : Int) (e : Bool) (i : Int) :
    combine_factorizations_dict_loop1_step k wl w false ccl tlen l0 l1 ⟨cc, tr, codes, gid, e⟩ i =
      let r := weight_code_sum k l1 (codes (normI l0 i)) wl w
      if r.1 = -1 then ⟨aset cc (normI ccl i) (-1), tr, codes, gid, e || r.2⟩
      else if (tr r.1).getD (-1) = -1 then
        ⟨aset cc (normI ccl i) gid, aset tr r.1 (some gid), asetRow codes (normI l0 gid) (codes (normI l0 i)), gid + 1, e || r.2⟩
      else ⟨aset cc (normI ccl i) ((tr r.1).getD (-1)), tr, codes, gid, e || r.2⟩ := by
  simp only [combine_factorizations_dict_loop1_step, Bool.not_not, Bool.false_eq_true, if_false]
  generalize weight_code_sum k l1 _ wl w = r
  by_cases h1 : r.1 = -1
  · simp only [h1, decide_true, if_true]
  · cases h : tr r.1 with
    | none => simp [h1]
    | some v => by_cases hv : v = -1 <;> simp [h1, hv]

/-- the distinct non-null keys among the first `t`, in order of first appearance -/
def labelsUpTo (keys : List Int) (t : Nat) : List Int := dedup ((keys.take t).filter (fun x => decide (x ≠ -1)))

theorem mem_labelsUpTo {keys : List Int} {t : Nat} {x : Int} : x ∈ labelsUpTo keys t ↔ x ∈ keys.take t ∧ x ≠ -1 := by
  simp [labelsUpTo, mem_dedup]

theorem labelsUpTo_succ (keys : List Int) (t : Nat) (ht : t < keys.length) :
    labelsUpTo keys (t + 1) =
      if keys[t] = -1 ∨ keys[t] ∈ labelsUpTo keys t then labelsUpTo keys t else labelsUpTo keys t ++ [keys[t]] := by
  rw [labelsUpTo, List.take_succ_eq_append_getElem ht, List.filter_append]
  by_cases h1 : keys[t] = -1
  · simp [h1, labelsUpTo]
  · simp [h1, dedup_snoc, mem_dedup, labelsUpTo]

theorem labelsUpTo_length (keys : List Int) :
    labelsUpTo keys keys.length = dedup (keys.filter (fun x => decide (x ≠ -1))) := by
  rw [labelsUpTo, List.take_length]

/-- the loop invariant, the tracker apart: with `L` the labels of the first `t` rows, these rows carry their codes, the
first `L.length` rows of the (re-used) code matrix hold the first row of each label, and the rows from `t` on are
untouched -/
structure CFInv (keys : List Int) (orig : Int → Int → Int) (t : Nat) (L : List Int)
    (ccodes : Int → Int) (codes : Int → Int → Int) : Prop where
  le : L.length ≤ t
  seen : ∀ j : Nat, j < t → keys.getD j 0 ≠ -1 → keys.getD j 0 ∈ L
  cc : ∀ j : Nat, j < t → ccodes (j : Int) = if keys.getD j 0 = -1 then -1 else (L.idxOf (keys.getD j 0) : Int)
  un : ∀ g : Nat, g < L.length → ∀ c : Int, codes (g : Int) c = orig ((keys.idxOf (L.getD g 0) : Nat) : Int) c
  rest : ∀ j : Nat, t ≤ j → codes (j : Int) = orig (j : Int)

section
variable {keys : List Int} {orig : Int → Int → Int} {t : Nat} {L : List Int} {ccodes : Int → Int}
  {codes : Int → Int → Int}

theorem CFInv.zero : CFInv keys orig 0 [] (fun _ => 0) orig :=
  ⟨Nat.le_refl 0, fun _ hj => absurd hj (Nat.not_lt_zero _), fun _ hj => absurd hj (Nat.not_lt_zero _),
    fun _ hg => absurd hg (Nat.not_lt_zero _), fun _ _ => rfl⟩

/-- a null key, or a key seen before -/
theorem CFInv.keep (h : CFInv keys orig t L ccodes codes) (key : Int) (hkey : keys.getD t 0 = key) (hk : key = -1 ∨ key ∈ L)
    (v : Int) (hv : v = if key = -1 then -1 else (L.idxOf key : Int)) :
    CFInv keys orig (t + 1) L (aset ccodes t v) codes := by
  refine ⟨Nat.le_succ_of_le h.le, fun j hj hne => ?_, fun j hj => ?_, h.un, fun j hj => h.rest j (Nat.le_of_succ_le hj)⟩
  · rcases Nat.lt_succ_iff_lt_or_eq.mp hj with hlt | rfl
    · exact h.seen j hlt hne
    · rw [hkey] at hne ⊢; exact hk.resolve_left hne
  · rw [aset_apply]
    rcases Nat.lt_succ_iff_lt_or_eq.mp hj with hlt | rfl
    · rw [if_neg (Int.ne_of_lt (Int.ofNat_lt.mpr hlt))]; exact h.cc j hlt
    · rw [if_pos rfl, hv, hkey]

/-- a new key: row `t` is copied to row `L.length ≤ t` of the matrix -/
theorem CFInv.new (h : CFInv keys orig t L ccodes codes) (key : Int) (hkey : keys.getD t 0 = key) (h1 : key ≠ -1) (hm : key ∉ L)
    (hfirst : keys.idxOf key = t) :
    CFInv keys orig (t + 1) (L ++ [key]) (aset ccodes t L.length) (asetRow codes L.length (orig t)) := by
  refine ⟨?_, fun j hj hne => ?_, fun j hj => ?_, fun g hg c => ?_, fun j hj => ?_⟩
  · rw [List.length_append, List.length_singleton]
    exact Nat.succ_le_succ h.le
  · rcases Nat.lt_succ_iff_lt_or_eq.mp hj with hlt | rfl
    · exact List.mem_append_left _ (h.seen j hlt hne)
    · rw [hkey]; exact List.mem_append_right _ (List.mem_singleton_self key)
  · rw [aset_apply]
    rcases Nat.lt_succ_iff_lt_or_eq.mp hj with hlt | rfl
    · rw [if_neg (Int.ne_of_lt (Int.ofNat_lt.mpr hlt)), h.cc j hlt]
      split
      · rfl
      · rw [List.idxOf_append, if_pos (h.seen j hlt ‹_›)]
    · rw [if_pos rfl, hkey, if_neg h1, idxOf_snoc_self hm]
  · rw [List.length_append, List.length_singleton] at hg
    rw [asetRow]
    rcases Nat.lt_succ_iff_lt_or_eq.mp hg with hlt | rfl
    · rw [if_neg (Int.ne_of_lt (Int.ofNat_lt.mpr hlt)), h.un g hlt c, List.getD_eq_getElem?_getD,
        List.getD_eq_getElem?_getD, List.getElem?_append_left hlt]
    · rw [if_pos rfl, List.getD_eq_getElem?_getD, List.getElem?_concat_length, Option.getD_some, hfirst]
  · funext c
    -- the new row lies above the label rows
    have hlt : L.length < j := Nat.lt_of_le_of_lt h.le hj
    rw [asetRow, if_neg (Int.ne_of_gt (Int.ofNat_lt.mpr hlt))]
    exact congrFun (h.rest j (Nat.le_of_succ_le hj)) c

end

section
variable (k : Kind) (keys : List Int) (ncols : Int) (orig : Int → Int → Int) (wl : Int) (w : Int → Int) (tlen : Int)

/-- the array tracker: the cell of a key holds its label number, `-1` while the key is absent -/
structure CFInvA (t : Nat) (L : List Int) (st : Combine_factorizations_arr_loop1St) : Prop where
  core : CFInv keys orig t L st.combined_codes st.codes
  gid : st.group_id = (L.length : Int)
  tr : ∀ x : Int, 0 ≤ x → x < tlen → st.code_tracker x = if x ∈ L then (L.idxOf x : Int) else -1
  err : st.err = false

/-- the dict tracker (`nb.typed.Dict`) is modelled as `Int → Option Int` -/
structure CFInvD (t : Nat) (L : List Int) (st : Combine_factorizations_dict_loop1St) : Prop where
  core : CFInv keys orig t L st.combined_codes st.codes
  gid : st.group_id = (L.length : Int)
  tr : ∀ x : Int, st.code_tracker x = if x ∈ L then some (L.idxOf x : Int) else none
  err : st.err = false

theorem idxOf_new (t : Nat) (ht : t < keys.length) (h1 : keys[t] ≠ -1) (hm : keys[t] ∉ labelsUpTo keys t) :
    keys.idxOf keys[t] = t :=
  idxOf_first _ t ht fun h => hm (mem_labelsUpTo.mpr ⟨h, h1⟩)

theorem cf_arr_step (htlen : 0 < tlen)
    (hk : ∀ i : Nat, i < keys.length → weight_code_sum k ncols (orig (i : Int)) wl w = (keys.getD i 0, false))
    (hrange : ∀ x ∈ keys, x = -1 ∨ (0 ≤ x ∧ x < tlen))
    (t : Nat) (st : Combine_factorizations_arr_loop1St) (ht : t < keys.length)
    (h : CFInvA keys orig tlen t (labelsUpTo keys t) st) :
    CFInvA keys orig tlen (t + 1) (labelsUpTo keys (t + 1))
      (combine_factorizations_arr_loop1_step k wl w (decide (tlen > 0)) keys.length tlen keys.length ncols st (t : Int)) := by
  obtain ⟨cc, tr, codes, gid, e⟩ := st
  obtain ⟨hc, hgid, htr, he⟩ := h
  simp only at hc hgid htr he
  subst hgid he
  have hget : keys.getD t 0 = keys[t] := getD_eq_getElem _ _ ht
  have hnew := idxOf_new keys t ht
  rw [decide_eq_true htlen, cf_arr_step_eq, labelsUpTo_succ keys t ht]
  simp only [normI_natCast, hc.rest t (Nat.le_refl t), hk t ht, hget, Bool.or_false]
  generalize labelsUpTo keys t = L at *
  by_cases h1 : keys[t] = -1
  · rw [if_pos h1, if_pos (Or.inl h1)]
    exact ⟨hc.keep _ hget (Or.inl h1) _ (if_pos h1).symm, rfl, htr, rfl⟩
  · obtain ⟨hk0, hk1⟩ := (hrange _ (List.getElem_mem ht)).resolve_left h1
    rw [if_neg h1, normI_nonneg _ _ hk0, htr _ hk0 hk1]
    by_cases hm : keys[t] ∈ L
    · have hne : ((L.idxOf keys[t] : Nat) : Int) ≠ -1 := by omega
      rw [if_pos hm, if_neg hne, if_pos (Or.inr hm)]
      exact ⟨hc.keep _ hget (Or.inr hm) _ (if_neg h1).symm, rfl, htr, rfl⟩
    · rw [if_neg hm, if_pos rfl, if_neg (not_or.mpr ⟨h1, hm⟩)]
      refine ⟨hc.new _ hget h1 hm (hnew h1 hm), ?_, fun x hx0 hx1 => ?_, rfl⟩
      · rw [List.length_append, List.length_singleton, Int.natCast_succ]
      · show aset tr _ _ x = _
        rw [aset_apply, htr x hx0 hx1, ite_mem_idxOf_snoc (fun n => (n : Int)) (-1) hm]

theorem cf_dict_step (htlen : tlen ≤ 0)
    (hk : ∀ i : Nat, i < keys.length → weight_code_sum k ncols (orig (i : Int)) wl w = (keys.getD i 0, false))
    (t : Nat) (st : Combine_factorizations_dict_loop1St) (ht : t < keys.length)
    (h : CFInvD keys orig t (labelsUpTo keys t) st) :
    CFInvD keys orig (t + 1) (labelsUpTo keys (t + 1))
      (combine_factorizations_dict_loop1_step k wl w (decide (tlen > 0)) keys.length tlen keys.length ncols st (t : Int)) := by
  obtain ⟨cc, tr, codes, gid, e⟩ := st
  obtain ⟨hc, hgid, htr, he⟩ := h
  simp only at hc hgid htr he
  subst hgid he
  have hget : keys.getD t 0 = keys[t] := getD_eq_getElem _ _ ht
  have hnew := idxOf_new keys t ht
  rw [decide_eq_false (by omega), cf_dict_step_eq, labelsUpTo_succ keys t ht]
  simp only [normI_natCast, hc.rest t (Nat.le_refl t), hk t ht, hget, Bool.or_false, htr]
  generalize labelsUpTo keys t = L at *
  by_cases h1 : keys[t] = -1
  · rw [if_pos h1, if_pos (Or.inl h1)]
    exact ⟨hc.keep _ hget (Or.inl h1) _ (if_pos h1).symm, rfl, htr, rfl⟩
  · rw [if_neg h1]
    by_cases hm : keys[t] ∈ L
    · have hne : ((L.idxOf keys[t] : Nat) : Int) ≠ -1 := by omega
      rw [if_pos hm, Option.getD_some, if_neg hne, if_pos (Or.inr hm)]
      exact ⟨hc.keep _ hget (Or.inr hm) _ (if_neg h1).symm, rfl, htr, rfl⟩
    · rw [if_neg hm, Option.getD_none, if_pos rfl, if_neg (not_or.mpr ⟨h1, hm⟩)]
      refine ⟨hc.new _ hget h1 hm (hnew h1 hm), ?_, fun x => ?_, rfl⟩
      · rw [List.length_append, List.length_singleton, Int.natCast_succ]
      · show aset tr _ _ x = _
        rw [aset_apply, htr x, ite_mem_idxOf_snoc (fun n => some (n : Int)) none hm]

end

/-- `_combine_factorizations` with an array tracker, for any list `keys` of the rows' keys (`-1`: null): `CFInv` holds
after all rows, with `L` all the labels -/
theorem combine_factorizations_arr_keys (k : Kind) (n : Nat) (keys : List Int) (hn : keys.length = n) (ncols : Int)
    (orig : Int → Int → Int) (wl : Int) (w : Int → Int)
    (tlen : Int) (tracker : Int → Int) (htlen : 0 < tlen) (htr : ∀ x : Int, 0 ≤ x → x < tlen → tracker x = -1)
    (hk : ∀ i : Nat, i < n → weight_code_sum k ncols (orig (i : Int)) wl w = (keys.getD i 0, false))
    (hrange : ∀ x ∈ keys, x = -1 ∨ (0 ≤ x ∧ x < tlen)) :
    let L := dedup (keys.filter (fun x => decide (x ≠ -1)))
    let r := combine_factorizations_arr k n ncols orig wl w tlen tracker
    r.2 = false ∧ r.1.2.2 = (L.length : Int) ∧ CFInv keys orig n L r.1.1 r.1.2.1 := by
  subst hn
  have h := foldl_rangeI_inv (fun t => CFInvA keys orig tlen t (labelsUpTo keys t)) _ keys.length
    ⟨fun _ => 0, tracker, orig, 0, false⟩ ⟨CFInv.zero, rfl, fun x h0 h1 => htr x h0 h1, rfl⟩
    (cf_arr_step k keys ncols orig wl w tlen htlen hk hrange)
  rw [labelsUpTo_length] at h
  exact ⟨h.err, h.gid, h.core⟩

/-- the same with the dict tracker, from an empty dict: no bound on the keys is needed -/
theorem combine_factorizations_dict_keys (k : Kind) (n : Nat) (keys : List Int) (hn : keys.length = n) (ncols : Int)
    (orig : Int → Int → Int) (wl : Int) (w : Int → Int)
    (hk : ∀ i : Nat, i < n → weight_code_sum k ncols (orig (i : Int)) wl w = (keys.getD i 0, false)) :
    let L := dedup (keys.filter (fun x => decide (x ≠ -1)))
    let r := combine_factorizations_dict k n ncols orig wl w 0 (fun _ => none)
    r.2 = false ∧ r.1.2.2 = (L.length : Int) ∧ CFInv keys orig n L r.1.1 r.1.2.1 := by
  subst hn
  have h := foldl_rangeI_inv (fun t => CFInvD keys orig t (labelsUpTo keys t)) _ keys.length
    ⟨fun _ => 0, fun _ => none, orig, 0, false⟩ ⟨CFInv.zero, rfl, fun _ => rfl, rfl⟩
    (cf_dict_step k keys ncols orig wl w 0 (Int.le_refl 0) hk)
  rw [labelsUpTo_length] at h
  exact ⟨h.err, h.gid, h.core⟩

/-! ### the same for the keys `_weight_code_sum` computes, in terms of the kernel's arguments alone -/

section
variable (k : Kind) (n : Nat) (ncols : Int) (orig : Int → Int → Int) (wl : Int) (w : Int → Int)

/-- mixed-radix key of row `i` of the original code matrix (`-1`: some component is null) -/
def cfKey (i : Nat) : Int := (weight_code_sum k ncols (orig (i : Int)) wl w).1

def cfKeys : List Int := (List.range n).map (cfKey k ncols orig wl w)

/-- the distinct non-null keys of the first `t` rows, in order of first appearance -/
def cfLabels (t : Nat) : List Int := dedup (((cfKeys k n ncols orig wl w).take t).filter (fun x => decide (x ≠ -1)))

theorem cfKeys_length : (cfKeys k n ncols orig wl w).length = n := by simp [cfKeys]

theorem cfKeys_get (i : Nat) (hi : i < n) : (cfKeys k n ncols orig wl w)[i]? = some (cfKey k ncols orig wl w i) := by
  simp [cfKeys, hi]

theorem cfKeys_getD (i : Nat) (hi : i < n) : (cfKeys k n ncols orig wl w).getD i 0 = cfKey k ncols orig wl w i := by
  rw [List.getD_eq_getElem?_getD, cfKeys_get k n ncols orig wl w i hi, Option.getD_some]

theorem cfLabels_eq (t : Nat) : cfLabels k n ncols orig wl w t = labelsUpTo (cfKeys k n ncols orig wl w) t := rfl

theorem cfLabels_ne (t : Nat) (x : Int) (hx : x ∈ cfLabels k n ncols orig wl w t) : x ≠ -1 :=
  (mem_labelsUpTo.mp (cfLabels_eq k n ncols orig wl w t ▸ hx)).2

theorem cfLabels_all : cfLabels k n ncols orig wl w n = dedup ((cfKeys k n ncols orig wl w).filter (fun x => decide (x ≠ -1))) := by
  rw [cfLabels_eq, ← labelsUpTo_length, cfKeys_length]

end

/-- **`_combine_factorizations` with an array tracker** numbers the mixed-radix keys of the rows in order of first
appearance: with `L` the distinct non-null keys in that order, the code of a row is `-1` for a null key and the
position of its key in `L` otherwise, `L.length` groups are reported, row `g` of the returned `uniques` is the row of
the code matrix where `L[g]` first appears, and no error is flagged - provided the tracker starts at `-1` on
`[0, len)`, every key is below its length and `_weight_code_sum` does not fail on any row -/
theorem combine_factorizations_arr_eq (k : Kind) (n : Nat) (ncols : Int) (orig : Int → Int → Int) (wl : Int) (w : Int → Int)
    (tlen : Int) (tracker : Int → Int) (htl : 0 < tlen) (htr : ∀ x : Int, 0 ≤ x → x < tlen → tracker x = -1)
    (herr : ∀ i : Nat, i < n → (weight_code_sum k ncols (orig (i : Int)) wl w).2 = false)
    (hrange : ∀ i : Nat, i < n → cfKey k ncols orig wl w i = -1 ∨ (0 ≤ cfKey k ncols orig wl w i ∧ cfKey k ncols orig wl w i < tlen)) :
    let r := combine_factorizations_arr k n ncols orig wl w tlen tracker
    let L := cfLabels k n ncols orig wl w n
    r.2 = false ∧ r.1.2.2 = (L.length : Int) ∧
      (∀ j : Nat, j < n → r.1.1 (j : Int) = if cfKey k ncols orig wl w j = -1 then -1 else (L.idxOf (cfKey k ncols orig wl w j) : Int)) ∧
      (∀ g : Nat, g < L.length → ∀ c : Int,
        r.1.2.1 (g : Int) c = orig (((cfKeys k n ncols orig wl w).idxOf (L.getD g 0) : Nat) : Int) c) := by
  have h := combine_factorizations_arr_keys k n (cfKeys k n ncols orig wl w) (cfKeys_length ..) ncols orig wl w tlen tracker htl htr
    (fun i hi => Prod.ext (cfKeys_getD k n ncols orig wl w i hi).symm (herr i hi))
    (fun x hx => by
      obtain ⟨i, hi, rfl⟩ := List.mem_map.mp hx
      exact hrange i (List.mem_range.mp hi))
  rw [← cfLabels_all] at h
  exact ⟨h.1, h.2.1, fun j hj => cfKeys_getD k n ncols orig wl w j hj ▸ h.2.2.cc j hj, h.2.2.un⟩

/-- **`_combine_factorizations` with a dict tracker** (the route for more than `use_dict_limit` key combinations): the
same first-appearance numbering, from an empty dict; no `KeyError` (the error flag stays false) -/
theorem combine_factorizations_dict_eq (k : Kind) (n : Nat) (ncols : Int) (orig : Int → Int → Int) (wl : Int) (w : Int → Int)
    (herr : ∀ i : Nat, i < n → (weight_code_sum k ncols (orig (i : Int)) wl w).2 = false) :
    let r := combine_factorizations_dict k n ncols orig wl w 0 (fun _ => none)
    let L := cfLabels k n ncols orig wl w n
    r.2 = false ∧ r.1.2.2 = (L.length : Int) ∧
      (∀ j : Nat, j < n → r.1.1 (j : Int) = if cfKey k ncols orig wl w j = -1 then -1 else (L.idxOf (cfKey k ncols orig wl w j) : Int)) ∧
      (∀ g : Nat, g < L.length → ∀ c : Int,
        r.1.2.1 (g : Int) c = orig (((cfKeys k n ncols orig wl w).idxOf (L.getD g 0) : Nat) : Int) c) := by
  have h := combine_factorizations_dict_keys k n (cfKeys k n ncols orig wl w) (cfKeys_length ..) ncols orig wl w
    (fun i hi => Prod.ext (cfKeys_getD k n ncols orig wl w i hi).symm (herr i hi))
  rw [← cfLabels_all] at h
  exact ⟨h.1, h.2.1, fun j hj => cfKeys_getD k n ncols orig wl w j hj ▸ h.2.2.cc j hj, h.2.2.un⟩

end GV.LoopBridge
