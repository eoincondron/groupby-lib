import GroupbyVerif.Generated.Loops
import GroupbyVerif.Model.Factorize
import GroupbyVerif.LoopBridge.Fold

/-!
# Bridge: the translated `_build_group_sorted_indexer_numba` (counting sort of row positions by group)

The source computes the start of every group's segment as a prefix sum of the group sizes, then walks the rows once
and writes each row position at the group's running write position.  Given the true group sizes, the segment of group
`g` then holds the ascending positions of the rows carrying code `g`; `groupSortedIndexer` (`Model/Factorize.lean`) is
the concatenation of these segments.  A row dropped by the mask behaves like a null-key row (`effCodes`).  Left out: the
`mapping` branch of the source (`key_map` is `None` here; `kml km` are carried and never read).
-/

namespace GV.LoopBridge
open GV GV.Generated.Loops

/-- prefix sums of the group sizes -/
def pre (cnt : Int → Int) (g : Nat) : Int := ((List.range g).map fun (h : Nat) => cnt (h : Int)).sum

theorem pre_succ (cnt : Int → Int) (g : Nat) : pre cnt (g + 1) = pre cnt g + cnt (g : Int) := by
  simp [pre, List.range_succ]

theorem starts_loop (k : Kind) (cnt : Int → Int) (ng : Nat) (gl : Int) (m g : Nat) (hg : g ≤ m) :
    ((rangeI (m : Int)).foldl (build_group_sorted_indexer_loop1_step k gl cnt ((ng : Int) + 1)) ⟨fun _ => 0⟩).group_starts
      (g : Int) = pre cnt g := by
  refine foldl_rangeI_inv
    (fun m (st : Build_group_sorted_indexer_loop1St) => ∀ g, g ≤ m → st.group_starts (g : Int) = pre cnt g) _ m _
    (fun g hg => Nat.le_zero.mp hg ▸ rfl) (fun t st _ ih g hg => ?_) g hg
  simp only [build_group_sorted_indexer_loop1_step, ← Int.natCast_succ, normI_natCast, aset_apply]
  rcases Nat.lt_or_eq_of_le hg with hlt | rfl
  · rw [if_neg (Int.ne_of_lt (Int.ofNat_lt.mpr hlt))]
    exact ih g (Nat.le_of_lt_succ hlt)
  · rw [if_pos rfl, ih t (Nat.le_refl t), pre_succ]

/-- the rows below `t` carrying code `g`, ascending (a row out of range reads as the null code) -/
def posUpTo (ec : List Int) (t : Nat) (g : Int) : List Nat := (List.range t).filter fun i => ec.getD i (-1) = g

theorem posUpTo_succ (ec : List Int) (t : Nat) (g : Int) :
    posUpTo ec (t + 1) g = if ec.getD t (-1) = g then posUpTo ec t g ++ [t] else posUpTo ec t g := by
  unfold posUpTo
  rw [List.range_succ, List.filter_append]
  by_cases h : ec.getD t (-1) = g
  · rw [if_pos h, List.filter_cons_of_pos (by simpa using h)]; rfl
  · rw [if_neg h, List.filter_cons_of_neg (by simpa using h), List.filter_nil, List.append_nil]

theorem positionsOf_eq_posUpTo (ec : List Int) (g : Int) : positionsOf ec g = posUpTo ec ec.length g := by
  unfold positionsOf posUpTo
  rw [zipIdx_eq_map_range ec (-1), List.filter_map, List.map_map]
  have : ((fun p : Int × Nat => p.2) ∘ fun i => (ec.getD i (-1), i)) = id := by funext i; rfl
  rw [this, List.map_id]
  rfl

/-- the source's test `k >= 0 and (unmasked or mask[i])` for writing a row is the negation of the scan kernels' test
for skipping it -/
theorem write_test (masked mb : Bool) (key : Int) :
    (decide (key ≥ 0) && (!masked || mb)) = !(decide (key < 0) || (masked && !mb)) := by
  simp only [Bool.not_or, Bool.not_and, Bool.not_not, ← decide_not, Int.not_lt, ge_iff_le]

theorem sort_step_eq (k : Kind) (mask_is_some : Bool) (mk : Int → Bool) (ml il cl kml : Int) (km : Int → Int)
    (idx cp : Int → Int) (i code : Int) :
    build_group_sorted_indexer_loop3_step k kml false km ml mask_is_some mk (!mask_is_some) false il cl ⟨idx, cp, i⟩ code =
      if (decide (code < 0) || (mask_is_some && !mk (normI ml i))) = true then ⟨idx, cp, i + 1⟩
      else ⟨aset idx (normI il (cp (normI cl code))) i, aset cp (normI cl code) (cp (normI cl code) + 1), i + 1⟩ := by
  simp only [build_group_sorted_indexer_loop3_step, write_test]
  cases decide (code < 0) || (mask_is_some && !mk (normI ml i)) <;> rfl

/-- the invariant of the second loop before row `t`: the running write position of every group is the start of its
segment plus the number of its rows so far (`posUpTo`), and the segment lists these rows in order -/
structure SortInv (ec : List Int) (cnt : Int → Int) (ng : Nat) (t : Nat) (st : Build_group_sorted_indexer_loop3St) : Prop where
  hi : st.i = (t : Int)
  hcp : ∀ g : Nat, g < ng → st.current_pos (g : Int) = pre cnt g + ((posUpTo ec t (g : Int)).length : Int)
  hidx : ∀ g : Nat, g < ng → ∀ j, j < (posUpTo ec t (g : Int)).length →
    st.indexer (pre cnt g + (j : Int)) = (((posUpTo ec t (g : Int)).getD j 0 : Nat) : Int)

theorem pre_mono (cnt : Int → Int) (hc : ∀ g : Nat, 0 ≤ cnt (g : Int)) {a b : Nat} (h : a ≤ b) : pre cnt a ≤ pre cnt b := by
  induction h with
  | refl => exact Int.le_refl _
  | @step m _ ih => rw [pre_succ]; have := hc m; omega

/-- a cell of an earlier group's segment lies before every cell of a later group's: the segment of `g` ends where that of
`g + 1` starts -/
theorem seg_lt (cnt : Int → Int) (hc : ∀ g : Nat, 0 ≤ cnt (g : Int)) {g h : Nat} (hl : g < h) {a b : Int}
    (ha : a < cnt (g : Int)) (hb0 : 0 ≤ b) : pre cnt g + a < pre cnt h + b :=
  calc pre cnt g + a < pre cnt g + cnt (g : Int) := Int.add_lt_add_left ha _
    _ = pre cnt (g + 1) := (pre_succ cnt g).symm
    _ ≤ pre cnt h := pre_mono cnt hc (Nat.succ_le_of_lt hl)
    _ ≤ pre cnt h + b := Int.le_add_of_nonneg_right hb0

/-- cells of two different groups' segments are different cells -/
theorem seg_disjoint (cnt : Int → Int) (hc : ∀ g : Nat, 0 ≤ cnt (g : Int)) (g h : Nat) (hne : g ≠ h) (a b : Int)
    (ha0 : 0 ≤ a) (ha : a < cnt (g : Int)) (hb0 : 0 ≤ b) (hb : b < cnt (h : Int)) :
    pre cnt g + a ≠ pre cnt h + b := by
  rcases Nat.lt_or_gt_of_ne hne with hl | hl
  · exact Int.ne_of_lt (seg_lt cnt hc hl ha hb0)
  · exact Int.ne_of_gt (seg_lt cnt hc hl hb ha0)

theorem sort_step (k : Kind) (ec : List Int) (cnt : Int → Int) (ng : Nat) (masked : Bool) (mk : Int → Bool)
    (ml il cl kml : Int) (km : Int → Int)
    (hcnt : ∀ g : Nat, g < ng → cnt (g : Int) = ((posUpTo ec ec.length (g : Int)).length : Int))
    (hc0 : ∀ g : Nat, 0 ≤ cnt (g : Int))
    (t : Nat) (ht : t < ec.length) (st : Build_group_sorted_indexer_loop3St) (code : Int)
    (hcode : ec.getD t (-1) = if masked && !mk (t : Int) then -1 else code)
    (hrange : code < (ng : Int)) (h : SortInv ec cnt ng t st) :
    SortInv ec cnt ng (t + 1)
      (build_group_sorted_indexer_loop3_step k kml false km ml masked mk (!masked) false il cl st code) := by
  obtain ⟨idx, cp, i⟩ := st
  obtain ⟨hi, hcp, hidx⟩ := h
  simp only at hi hcp hidx
  subst hi
  rw [sort_step_eq, normI_natCast]
  rcases eff_cases masked (mk (t : Int)) code with ⟨hneg, hskip⟩ | ⟨heq, hk0, hk, hm⟩
  · -- null key or dropped by the mask: only the row counter moves
    rw [if_pos hskip]
    rw [← hcode] at hneg
    have hsame : ∀ g : Nat, posUpTo ec (t + 1) (g : Int) = posUpTo ec t (g : Int) := fun g => by
      rw [posUpTo_succ, if_neg]
      intro h
      exact Int.not_lt.mpr (Int.natCast_nonneg g) (h ▸ hneg)
    refine ⟨(Int.natCast_succ t).symm, fun g hg => ?_, fun g hg j hj => ?_⟩
    · rw [hsame g]
      exact hcp g hg
    · rw [hsame g] at hj ⊢
      exact hidx g hg j hj
  · -- the row is written at its group's running position
    rw [hk, hm, if_neg (by decide)]
    obtain ⟨gk, rfl⟩ := Int.eq_ofNat_of_zero_le hk0
    have hgk : gk < ng := Int.ofNat_lt.mp hrange
    have hec : ec.getD t (-1) = (gk : Int) := hcode.trans heq
    have hown : posUpTo ec (t + 1) (gk : Int) = posUpTo ec t (gk : Int) ++ [t] := by rw [posUpTo_succ, if_pos hec]
    have hother : ∀ g : Nat, g ≠ gk → posUpTo ec (t + 1) (g : Int) = posUpTo ec t (g : Int) := fun g hne => by
      rw [posUpTo_succ, hec, if_neg fun h => hne (Int.ofNat_inj.mp h).symm]
    -- no segment overflows: the rows of a group counted so far are among all its rows
    have hle : ∀ g : Nat, g < ng → ((posUpTo ec (t + 1) (g : Int)).length : Int) ≤ cnt (g : Int) := fun g hg => by
      rw [hcnt g hg]
      exact Int.ofNat_le.mpr ((List.range_sublist.mpr (Nat.succ_le_of_lt ht)).filter _).length_le
    have hroom : ((posUpTo ec t (gk : Int)).length : Int) < cnt (gk : Int) := by
      have := hle gk hgk
      rw [hown, List.length_append, List.length_singleton] at this
      exact Int.lt_of_lt_of_le (Int.ofNat_lt.mpr (Nat.lt_succ_self _)) this
    rw [normI_natCast, hcp gk hgk,
      normI_nonneg _ _ (Int.add_nonneg (pre_mono cnt hc0 (Nat.zero_le gk)) (Int.natCast_nonneg _))]
    refine ⟨(Int.natCast_succ t).symm, fun g hg => ?_, fun g hg j hj => ?_⟩
    · show aset cp _ _ _ = _
      rw [aset_apply]
      by_cases e : g = gk
      · subst e
        rw [if_pos rfl, hown, List.length_append, List.length_singleton, Int.natCast_succ, Int.add_assoc]
      · rw [if_neg fun h => e (Int.ofNat_inj.mp h), hother g e]
        exact hcp g hg
    · show aset idx _ _ _ = _
      by_cases e : g = gk
      · subst e
        rw [hown] at hj ⊢
        exact seg_snoc idx _ _ t (hidx g hg) j hj
      · rw [hother g e] at hj ⊢
        rw [aset_apply, if_neg (seg_disjoint cnt hc0 g gk e _ _ (Int.natCast_nonneg j)
          (Int.lt_of_lt_of_le (Int.ofNat_lt.mpr hj) (hother g e ▸ hle g hg)) (Int.natCast_nonneg _) hroom)]
        exact hidx g hg j hj

/-- the `φ` of `foldl_flatten_of_chunk`: the state of the loop over the chunks as the state of the loop over the rows -/
def cs3of2 (s : Build_group_sorted_indexer_loop2St) : Build_group_sorted_indexer_loop3St := ⟨s.indexer, s.current_pos, s.i⟩

/-- **`_build_group_sorted_indexer_numba` is the counting sort it is meant to be**: for any chunking of the codes,
any mask, codes below `ngroups` and the true group sizes as `group_counts`, the segment of group `g` (starting at the
prefix sum of the sizes of the groups before it) lists exactly the ascending positions of the rows with code `g` -/
theorem build_group_sorted_indexer_eq (k : Kind) (chunks : List (List Int)) (msk : List Bool) (masked : Bool)
    (cnt : Int → Int) (ng : Nat) (ml kml : Int) (km : Int → Int)
    (hrange : ∀ c ∈ chunks.flatten, c < (ng : Int))
    (hcnt : ∀ g : Nat, g < ng →
      cnt (g : Int) = ((positionsOf (effCodes masked chunks.flatten msk) (g : Int)).length : Int))
    (hc0 : ∀ g : Nat, 0 ≤ cnt (g : Int)) (g : Nat) (hg : g < ng) (j : Nat)
    (hj : j < (positionsOf (effCodes masked chunks.flatten msk) (g : Int)).length) :
    let r := build_group_sorted_indexer k chunks ng cnt false kml km masked ml (arrOf msk true)
    r.2 = false ∧
      r.1 (pre cnt g + (j : Int)) = (((positionsOf (effCodes masked chunks.flatten msk) (g : Int))[j] : Nat) : Int) := by
  intro r
  refine ⟨rfl, ?_⟩
  let ec := effCodes masked chunks.flatten msk
  have hecl : ec.length = chunks.flatten.length := effCodes_length ..
  have hcnt' : ∀ g : Nat, g < ng → cnt (g : Int) = ((posUpTo ec ec.length (g : Int)).length : Int) := fun g hg => by
    rw [hcnt g hg, positionsOf_eq_posUpTo]
  have key : ∀ st, SortInv ec cnt ng chunks.flatten.length st → st.indexer (pre cnt g + (j : Int)) =
      (((positionsOf ec (g : Int))[j] : Nat) : Int) := fun st h => by
    rw [← hecl] at h
    have hj' := positionsOf_eq_posUpTo ec g ▸ hj
    rw [h.hidx g hg j hj', getD_eq_getElem _ _ hj']
    simp only [positionsOf_eq_posUpTo]
  -- the nested loop over the chunks is one loop over their concatenation
  show (cs3of2 (chunks.foldl _ _)).indexer _ = _
  rw [foldl_flatten_of_chunk _ _ cs3of2 (fun _ _ => rfl)]
  refine key _ (foldl_inv (SortInv ec cnt ng) _ _ _ ⟨rfl, fun g hg => ?_, fun g hg j hj => ?_⟩ fun t st ht h => ?_)
  · -- the write positions start at the prefix sums
    simp [cs3of2, starts_loop k cnt ng ng ng g (Nat.le_of_lt hg), posUpTo]
  · simp [posUpTo] at hj
  · refine sort_step k ec cnt ng masked (arrOf msk true) ml _ _ kml km hcnt' hc0 t (hecl ▸ ht) st _ ?_
      (hrange _ (List.getElem_mem ht)) h
    rw [effCodes_getD _ _ _ _ ht, arrOf_natCast, getD_eq_getElem _ _ ht]

end GV.LoopBridge
