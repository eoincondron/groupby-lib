import GroupbyVerif.LoopBridge.Fold
import GroupbyVerif.Generated.Loops
import GroupbyVerif.Model.Cumulative

/-!
# Bridge: the translated `_cumulative_reduce` is `cumGo` (`Model/Cumulative.lean`)

The source keeps no running value per group: it remembers the *position* of the group's previous accepted row
(`group_last_seen`, `-1` at first) and reads the running value back from the output array at that position -
`target[-1]`, i.e. the last cell of the output, on a group's first row.  The model carries the running partial
per group.  Two facts make the two the same: cells at or after the current row still hold the initial value (so
`target[-1]` is the initial value as long as a row remains; `foldl_range_sim` hands this to the step), and the cell at
a group's `group_last_seen` holds that group's running value (`CumG`, the per-group clause of `CumInv`; cells are
written only in their own iteration).
The `uint32` count array wraps in the translation; below `2^32` rows the wrap is the identity for every reducer whose
count grows by at most one per row (`RedCountOK`; `C08.model_redCountOK` proves it for the reducer table).
-/

namespace GV.LoopBridge
open GV GV.Generated.Loops

/-- a reducer's count never decreases and grows by at most one -/
def RedCountOK (red : Red) : Prop := ∀ a v c, (red a v c).2 = c ∨ (red a v c).2 = c + 1

theorem RedCountOK.bound {red : Red} (hred : RedCountOK red) (a v : Val) {c : Int} {t : Nat} (h0 : 0 ≤ c) (h1 : c ≤ t) :
    0 ≤ (red a v c).2 ∧ (red a v c).2 ≤ (t + 1 : Nat) := by
  rcases hred a v c with h | h <;> omega

theorem cumGo_length (red : Red) (m : Int → Partial) (rows : List CRow) : (cumGo red m rows).length = rows.length := by
  rw [cumGo_eq_loopGo, loopGo_length, List.length_map]

/-- `last = -1`: no accepted row yet, the model still holds the initial value; otherwise the group's running value is
where the kernel will read it back, in output cell `last` -/
def CumG (init : Val) (t : Nat) (tg : Int → Val) (cnt last : Int) (p : Partial) : Prop :=
  cnt = p.2 ∧ 0 ≤ p.2 ∧ p.2 ≤ t ∧ ((last = -1 ∧ p = (init, 0)) ∨ (0 ≤ last ∧ last < t ∧ tg last = p.1))

theorem CumG.mono {init : Val} {t : Nat} {tg tg' : Int → Val} {cnt last : Int} {p : Partial}
    (h : CumG init t tg cnt last p) (hfr : ∀ j : Int, j ≠ (t : Int) → tg' j = tg j) :
    CumG init (t + 1) tg' cnt last p := by
  obtain ⟨a, b, c, d⟩ := h
  refine ⟨a, b, by omega, ?_⟩
  rcases d with d | ⟨d1, d2, d3⟩
  · exact Or.inl d
  · exact Or.inr ⟨d1, by omega, by rw [hfr _ (by omega)]; exact d3⟩

/-- the value the kernel reads back for the group (`target[-1]`, the last cell, while the group has no accepted row) -/
theorem CumG.read {init : Val} {t : Nat} {tg : Int → Val} {cnt last : Int} {p : Partial} (h : CumG init t tg cnt last p)
    {n : Nat} (ht : t < n) (hun : ∀ j : Int, (t : Int) ≤ j → tg j = init) : tg (normI n last) = p.1 := by
  obtain ⟨-, -, -, hlast⟩ := h
  rcases hlast with ⟨d1, d2⟩ | ⟨d1, _, d3⟩
  · rw [d1, normI_neg _ _ (by omega), d2]
    exact hun _ (by omega)
  · rw [normI_nonneg _ _ d1]; exact d3

/-- the source starts `i` at `-1` and increments it before use, hence `st.i + 1 = t` -/
def CumInv (init : Val) (t : Nat) (st : Cumulative_reduce_loop2St) (m : Int → Partial) : Prop :=
  st.i + 1 = (t : Int) ∧
    ∀ g : Int, 0 ≤ g → CumG init t st.target (st.group_count g) (st.group_last_seen g) (m g)

/-- the value the kernel leaves in an output cell: the model's output, or the untouched initial value at a null-key row -/
def outAt (init : Val) (l : List (Option Val)) (j : Nat) : Val :=
  match l[j]? with
  | some (some v) => v
  | _ => init

theorem outAt_eq_cellOr (init : Val) (l : List (Option Val)) (j : Nat) : outAt init l j = cellOr id init l[j]? := by
  unfold outAt
  rcases l[j]? with _ | _ | _ <;> rfl

theorem cum_step (k : Kind) (red : Red) (hred : RedCountOK red) (init : Val) (n : Nat) (hn : (n : Int) < 2 ^ 32)
    (gk : Int → Int) (masked : Bool) (mk : Int → Bool) (ng ml gkl : Int) (t : Nat) (ht : t < n)
    (st : Cumulative_reduce_loop2St) (m : Int → Partial) (r : CRow)
    (hcode : gk (t : Int) = r.code) (hsel : (masked && !mk (t : Int)) = !r.sel) (h : CumInv init t st m)
    (hun : ∀ j : Int, (t : Int) ≤ j → st.target j = init) :
    let st' := cumulative_reduce_loop2_step k gkl gk red ml masked mk masked n ng ng st r.val
    CumInv init (t + 1) st' (gstep (cumStep red) m (r.code, r)) ∧
      (∀ j : Int, j ≠ (t : Int) → st'.target j = st.target j) ∧
      st'.target (t : Int) = (if r.code < 0 then init else (cumStep red (m r.code) r).1) ∧
      st'.has_null_key = (st.has_null_key || decide (r.code < 0)) := by
  obtain ⟨hi, hgr⟩ := h
  intro st'
  simp only [st', gstep, cumStep, cumulative_reduce_loop2_step, hi, normI_natCast, hcode, hsel]
  by_cases hk : r.code < 0
  · simp only [hk, decide_true, if_true, Bool.or_true]
    exact ⟨⟨rfl, fun g hg => (hgr g hg).mono fun _ _ => rfl⟩, fun _ _ => trivial, hun _ (Int.le_refl _),
      trivial⟩
  · have hk0 : 0 ≤ r.code := Int.not_lt.mp hk
    simp only [hk, decide_false, Bool.false_eq_true, if_false, Bool.or_false, normI_nonneg _ _ hk0]
    have hG := hgr _ hk0
    have hread := hG.read ht hun
    obtain ⟨hc, h0, hle, hlast⟩ := hG
    by_cases hs : r.sel = true
    · simp only [hs, Bool.not_true, Bool.false_eq_true, if_false, if_true, hread, hc, pstep]
      have hcnt := hred.bound (m r.code).1 r.val h0 hle
      rw [wrapU_id 32 _ hcnt.1 (Int.lt_of_le_of_lt (Int.le_trans hcnt.2 (Int.ofNat_le.mpr ht)) hn)]
      refine ⟨⟨rfl, fun g hg => ?_⟩, fun j hj => aset_other _ _ _ _ hj, aset_same _ _ _, trivial⟩
      dsimp only [upd, aset]
      by_cases e : g = r.code
      · subst e
        simp only [if_true]
        exact ⟨rfl, hcnt.1, hcnt.2, Or.inr ⟨Int.natCast_nonneg t, Int.ofNat_lt.mpr (Nat.lt_succ_self t), if_pos rfl⟩⟩
      · simp only [e, if_false]
        exact (hgr g hg).mono fun j hj => if_neg hj
    · -- masked row: the running value is passed through
      have hs' : r.sel = false := Bool.eq_false_iff.mpr hs
      simp only [hs', Bool.not_false, if_true, Bool.false_eq_true, if_false, ite_aset_left, hread, upd_self]
      refine ⟨⟨rfl, fun g hg => ?_⟩, fun j hj => aset_other _ _ _ _ hj, ?_, trivial⟩
      · exact (hgr g hg).mono fun j hj => aset_other _ _ _ _ hj
      · rw [aset_same]
        split
        · rfl
        · next hl =>
          rcases hlast with ⟨d1, d2⟩ | ⟨d1, d2, d3⟩
          · rw [d2]; exact hun _ (Int.le_refl _)
          · exact absurd (decide_eq_true d1) hl

/-- the `φ` of `foldl_chunks_sim`: the outer loop's state, fields in the inner loop's order -/
def cum2of1 (s : Cumulative_reduce_loop1St) : Cumulative_reduce_loop2St :=
  ⟨s.i, s.has_null_key, s.target, s.group_count, s.group_last_seen⟩

/-- row `i` of all four scan kernels, the cumulative one and the three rolling ones: they read the same three arrays -/
def cumRow (codes : List Int) (vals : List Val) (masked : Bool) (msk : List Bool) (i : Nat) : CRow :=
  ⟨codes.getD i 0, vals.getD i .nan, !(masked && !(msk.getD i true))⟩

theorem cumRow_code (codes : List Int) (vals : List Val) (masked : Bool) (msk : List Bool) (t : Nat) :
    arrOf codes 0 (t : Int) = (cumRow codes vals masked msk t).code :=
  arrOf_natCast _ _ _

theorem cumRow_sel (codes : List Int) (vals : List Val) (masked : Bool) (msk : List Bool) (t : Nat) :
    (masked && !arrOf msk true (t : Int)) = !(cumRow codes vals masked msk t).sel := by
  simp [cumRow]

/-- the rows the kernel sees: code, value and whether the mask selects the row -/
def cumRows (codes : List Int) (vals : List Val) (masked : Bool) (msk : List Bool) : List CRow :=
  (List.range codes.length).map fun i => ⟨codes.getD i 0, vals.getD i .nan, !(masked && !(msk.getD i true))⟩

theorem cumRows_getElem (codes : List Int) (vals : List Val) (masked : Bool) (msk : List Bool) (i : Nat)
    (hi : i < codes.length) :
    (cumRows codes vals masked msk)[i]? = some ⟨codes.getD i 0, vals.getD i .nan, !(masked && !(msk.getD i true))⟩ := by
  simp [cumRows, hi]

/-- **`_cumulative_reduce` is `cumulativeReduce`**: for any chunking of the values, below `2^32` rows, every output
cell of a row with a non-null key holds the model's output for that row, the cells of null-key rows keep the initial
value of the target, and the null-key flag is raised iff some code is negative -/
theorem cumulative_reduce_eq (k : Kind) (red : Red) (hred : RedCountOK red) (init : Val) (codes : List Int)
    (chunks : List (List Val)) (msk : List Bool) (masked : Bool) (ng ml : Int)
    (hlen : codes.length = chunks.flatten.length) (hn : (codes.length : Int) < 2 ^ 32) :
    let rows := cumRows codes chunks.flatten masked msk
    let r := cumulative_reduce k codes.length (arrOf codes 0) chunks red ng codes.length (fun _ => init) masked ml
      (arrOf msk true)
    r.2 = false ∧ r.1.2 = rows.any (fun r => decide (r.code < 0)) ∧
      ∀ j, j < codes.length → r.1.1 (j : Int) = outAt init (cumulativeReduce red init rows) j := by
  intro rows r
  have hloop := foldl_chunks_sim
    (cumulative_reduce_loop1_step k codes.length (arrOf codes 0) red ml masked (arrOf msk true) masked codes.length ng ng)
    (cumulative_reduce_loop2_step k codes.length (arrOf codes 0) red ml masked (arrOf msk true) masked codes.length ng ng)
    cum2of1 (fun _ _ => rfl) chunks .nan (·.target) (cumStep red) (fun s r => (cumStep red s r).1)
    (fun i => ((cumRow codes chunks.flatten masked msk i).code, cumRow codes chunks.flatten masked msk i)) id init
    (fun t s m => CumInv init t s m ∧ s.has_null_key =
      ((List.range t).map (cumRow codes chunks.flatten masked msk)).any (fun r => decide (r.code < 0)))
    codes.length hlen ⟨-1, fun _ => init, fun _ => 0, fun _ => -1, false⟩ (fun _ => (init, 0))
    ⟨⟨rfl, fun g _ => ⟨rfl, Int.le_refl _, Int.le_refl _, Or.inl ⟨rfl, rfl⟩⟩⟩, rfl⟩
    (fun t s m ht hmem hinv hun => by
      obtain ⟨h1, h2, h3, h4⟩ := cum_step k red hred init codes.length hn (arrOf codes 0) masked (arrOf msk true) ng ml _ t
        ht s m _ (cumRow_code codes chunks.flatten masked msk t) (cumRow_sel codes chunks.flatten masked msk t) hinv.1 hun
      refine ⟨⟨h1, h4.trans ?_⟩, h2, h3⟩
      rw [hinv.2, List.range_succ, List.map_append, List.any_append]
      simp)
  have hgo : cumulativeReduce red init rows =
      loopGo (cumStep red) (fun s r => (cumStep red s r).1) (fun _ => (init, 0))
        ((List.range codes.length).map fun i =>
          ((cumRow codes chunks.flatten masked msk i).code, cumRow codes chunks.flatten masked msk i)) := by
    simp only [rows, cumulativeReduce, cumGo_eq_loopGo, cumRows, List.map_map]; rfl
  simp only [hgo, outAt_eq_cellOr]
  exact ⟨rfl, hloop.1.2, hloop.2.2⟩

end GV.LoopBridge
