import GroupbyVerif.LoopBridge.Fold
import GroupbyVerif.Generated.Loops
import GroupbyVerif.Lemmas.Nearby

/-!
# Bridge: the translated `group_nearby_members` is the model of `Model/Nearby.lean`

The index normalisation of the three per-group arrays is the identity at a non-negative code, so the translated step
and the model step update the same functions; a negative code leaves the whole state alone (the `continue` sits before
any read).  `np.empty` is translated as an array of zeros: `last_seen` is only read after `seen[key]` was set, and the
model reads it in the same place, so the content does not matter.
-/

namespace GV.LoopBridge
open GV GV.Generated.Loops

/-- after `t` rows the four per-group arrays are the model's, and `out` is the list of the model's outputs so far;
every cell `j` is covered, not only `j < t`: the default `-1` of `getD` is what an unwritten cell holds -/
def NearbyRel (t : Nat) (st : Group_nearby_members_loop1St) (m : NearbySt × List Int) : Prop :=
  st.seen = m.1.seen ∧ st.group_counter = m.1.counter ∧ st.group_tracker = m.1.tracker ∧ st.last_seen = m.1.last ∧
    m.2.length = t ∧ ∀ j : Nat, st.out' (j : Int) = m.2.getD j (-1)

theorem nearby_step_rel (k : Kind) (codes : List Int) (vals : List Val) (maxDiff : Val) (n : Int) (t : Nat)
    (st : Group_nearby_members_loop1St) (m : NearbySt × List Int) (h : NearbyRel t st m) :
    NearbyRel (t + 1)
      (group_nearby_members_loop1_step k codes.length (arrOf codes 0) vals.length (arrOf vals .nan) maxDiff n n n
        codes.length st (t : Int))
      ((nearbyStep maxDiff m.1 (codes.getD t 0, vals.getD t .nan)).1,
        m.2 ++ [(nearbyStep maxDiff m.1 (codes.getD t 0, vals.getD t .nan)).2]) := by
  obtain ⟨sseen, scnt, str, slast, sout⟩ := st
  obtain ⟨⟨mseen, mcnt, mtr, mlast⟩, mo⟩ := m
  obtain ⟨h1, h2, h3, h4, h5, h6⟩ := h
  simp only at h1 h2 h3 h4 h5 h6
  subst h1 h2 h3 h4
  simp only [group_nearby_members_loop1_step, normI_natCast, arrOf_natCast, nearbyStep, decide_eq_true_eq]
  generalize codes.getD t 0 = key
  generalize vals.getD t Val.nan = v
  by_cases hk : key < 0
  · -- nothing is read or written; the cell of this row still holds the initial `-1`
    simp only [hk, if_true]
    refine ⟨rfl, rfl, rfl, rfl, by rw [List.length_append, h5]; rfl, fun j => ?_⟩
    show sout j = _
    rw [getD_snoc, h6 j]; split
    · subst j; simp
    · rfl
  · simp only [hk, if_false, normI_nonneg _ _ (Int.not_lt.mp hk), nearbyFresh]
    refine ⟨rfl, rfl, rfl, rfl, by rw [List.length_append, h5]; rfl, fun j => ?_⟩
    show aset sout t _ j = _
    simp only [getD_snoc, aset_apply, h6 j, Int.natCast_inj, h5]

/-- **`group_nearby_members` is `nearby`**: every output cell is the model's output for that row, no error is
flagged.  The bound on the codes (the factorization's contract) is not used: the translation's arrays are total
functions. -/
theorem group_nearby_members_eq (k : Kind) (codes : List Int) (vals : List Val) (maxDiff : Val) (n : Int)
    (hlen : codes.length = vals.length) (hc : ∀ c ∈ codes, c < n) :
    let r := group_nearby_members k codes.length (arrOf codes 0) vals.length (arrOf vals .nan) maxDiff n
    r.2 = false ∧ ∀ j : Nat, j < codes.length → r.1 (j : Int) = (nearby maxDiff (codes.zip vals)).getD j (-1) := by
  have key := foldl_rangeI_inv (fun t st => NearbyRel t st (nearbyRun maxDiff ((codes.zip vals).take t)))
    (group_nearby_members_loop1_step k codes.length (arrOf codes 0) vals.length (arrOf vals .nan) maxDiff n n n
      codes.length) codes.length ⟨fun _ => false, -1, fun _ => -1, fun _ => .num 0, fun _ => -1⟩
    ⟨rfl, rfl, rfl, rfl, rfl, fun j => by simp [nearbyRun]⟩
    (fun t st ht h => by
      have hlt : t < (codes.zip vals).length := by rw [List.length_zip, ← hlen, Nat.min_self]; exact ht
      rw [List.take_succ_eq_append_getElem hlt, nearbyRun_snoc, List.getElem_zip, ← getD_eq_getElem codes 0 ht,
        ← getD_eq_getElem vals .nan (hlen ▸ ht)]
      exact nearby_step_rel k codes vals maxDiff n t st _ h)
  rw [List.take_of_length_le (by rw [List.length_zip, ← hlen, Nat.min_self]; exact Nat.le_refl _)] at key
  exact ⟨rfl, fun j _ => key.2.2.2.2.2 j⟩

end GV.LoopBridge
