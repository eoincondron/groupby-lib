import GroupbyVerif.LoopBridge.Cumulative
import GroupbyVerif.Model.Rolling

/-!
# Bridge: the translated rolling kernels are the ring-buffer models of `Model/Rolling.lean`

`_rolling_shift_or_diff_1d` and `_rolling_sum_or_mean_1d` keep, per group, one row of an `(ngroups, window)` buffer
matrix, a write position and counters; the models keep one record `RS` per group.  `RingRel` ties them at every
non-negative code.  The output cell of a row holds the model's `RCell` rendered by `cellVal` (a null cell is the
kernel's `null_value`; the mean's quotient goes through the uninterpreted division `divf`).

Each generated step has two equations: a skipped row only moves the row counter; a selected row of group `g` updates
every per-group array at `g` and the output at the row.  The step theorems carry the invariants through them.
-/

namespace GV.LoopBridge
open GV GV.Generated.Loops

def rowV (a : Int → Int → Val) (g : Int) (w : Nat) : List Val := (List.range w).map fun (j : Nat) => a g (j : Int)

@[simp] theorem rowV_length (a : Int → Int → Val) (g : Int) (w : Nat) : (rowV a g w).length = w := by simp [rowV]

theorem rowV_getD (a : Int → Int → Val) (g : Int) (w : Nat) (j : Nat) (hj : j < w) (d : Val) :
    (rowV a g w).getD j d = a g (j : Int) := by
  simp [rowV, List.getD_eq_getElem?_getD, hj]

theorem rowV_aset2_same (a : Int → Int → Val) (g : Int) (w : Nat) (j : Nat) (hj : j < w) (x : Val) :
    rowV (aset2 a g (j : Int) x) g w = (rowV a g w).set j x :=
  rowA_aset2_same a g w j x

theorem rowV_aset2_other (a : Int → Int → Val) (g g' : Int) (w : Nat) (j : Int) (x : Val) (h : g' ≠ g) :
    rowV (aset2 a g j x) g' w = rowV a g' w :=
  rowA_aset2_other a g g' w j x h

/-- rendering of a model cell in the kernel's output array -/
def cellVal (divf : Val → Int → Val) (nullv : Val) : RCell → Val
  | .null => nullv
  | .num n => .num n
  | .ratio s c => divf (.num s) c

/-- the kernel's output cell for a model output: an untouched cell keeps `null_value` -/
def cellAt (divf : Val → Int → Val) (nullv : Val) (l : List (Option RCell)) (j : Nat) : Val :=
  match l[j]? with
  | some (some c) => cellVal divf nullv c
  | _ => nullv

theorem cellAt_eq_cellOr (divf : Val → Int → Val) (nullv : Val) (l : List (Option RCell)) (j : Nat) :
    cellAt divf nullv l j = cellOr (cellVal divf nullv) nullv l[j]? := by
  unfold cellAt
  rcases l[j]? with _ | _ | _ <;> rfl

theorem rollGo_length (k : Kind) (op : RollOp) (w minp : Nat) (m : Int → RS) (rows : List CRow) :
    (rollGo k op w minp m rows).length = rows.length := by
  rw [rollGo_eq_loopGo, loopGo_length, List.length_map]

theorem rolling_cumRows (k : Kind) (op : RollOp) (w minp : Nat) (codes : List Int) (vals : List Val) (masked : Bool)
    (msk : List Bool) :
    rolling k op w minp (cumRows codes vals masked msk) =
      loopGo (rollStep k op w) (fun s v => rollOut k op w minp s (rollStep k op w s v) v) (fun _ => rinit k w)
        ((List.range codes.length).map fun i => rollRow (cumRow codes vals masked msk i)) := by
  rw [rolling, rollGo_eq_loopGo, cumRows, List.map_map]; rfl

/-- `min_periods = window if min_periods is None else min_periods` -/
theorem minPeriods_default (minp : Option Nat) (w : Nat) :
    (if (!minp.isSome) = true then (w : Int) else ((minp.getD 0 : Nat) : Int)) = ((minp.getD w : Nat) : Int) := by
  cases minp <;> rfl

theorem rollRow_cases (r : CRow) :
    ((rollRow r).1 < 0 ∧ (decide (r.code < 0) || !r.sel) = true) ∨
      (rollRow r = (r.code, r.val) ∧ 0 ≤ r.code ∧ r.sel = true) := by
  unfold rollRow
  cases hs : r.sel
  · exact Or.inl ⟨by simp, by simp⟩
  · by_cases hk : r.code < 0
    · exact Or.inl ⟨by simpa using hk, by simp [hk]⟩
    · exact Or.inr ⟨by simp, by omega, rfl⟩

/-- generated ring arrays vs the model's per-group record (buffer row, write position, rows seen) -/
def RingRel (w : Nat) (bufs : Int → Int → Val) (posA seenA : Int → Int) (m : Int → RS) : Prop :=
  ∀ g : Int, 0 ≤ g → (m g).buf = rowV bufs g w ∧ ((m g).pos : Int) = posA g ∧ (m g).pos < w ∧
    ((m g).nSeen : Int) = seenA g

theorem fmod_succ_cast (p w : Nat) (hw : 0 < w) : Int.fmod ((p : Int) + 1) (w : Int) = (((p + 1) % w : Nat) : Int) := by
  rw [Int.fmod_eq_emod_of_nonneg _ (by omega), Int.natCast_emod]
  simp

namespace RingRel
variable {w : Nat} {bufs : Int → Int → Val} {posA seenA : Int → Int} {m : Int → RS} {g : Int}

theorem pos_nonneg (h : RingRel w bufs posA seenA m) (hg : 0 ≤ g) : 0 ≤ posA g := by
  have := (h g hg).2.1; omega

theorem read (h : RingRel w bufs posA seenA m) (hg : 0 ≤ g) (d : Val) :
    (m g).buf.getD (m g).pos d = bufs g (posA g) := by
  obtain ⟨hb, hp, hpw, _⟩ := h g hg
  rw [hb, rowV_getD _ _ _ _ hpw, hp]

theorem full (h : RingRel w bufs posA seenA m) (hg : 0 ≤ g) :
    decide (seenA g ≥ (w : Int)) = decide ((m g).nSeen ≥ w) := by
  rw [← (h g hg).2.2.2]; simp

theorem row_write (h : RingRel w bufs posA seenA m) (hg : 0 ≤ g) (v : Val) :
    rowV (aset2 bufs g (posA g) v) g w = (m g).buf.set (m g).pos v := by
  obtain ⟨hb, hp, hpw, _⟩ := h g hg
  rw [hb, ← hp, rowV_aset2_same _ _ _ _ hpw]

/-- `s'` stands for the result of either model step: `rstep` and `mstep` satisfy the three equations by `rfl` -/
theorem write (h : RingRel w bufs posA seenA m) (hw : 0 < w) (hg : 0 ≤ g) (v : Val) (s' : RS)
    (hb : s'.buf = (m g).buf.set (m g).pos v) (hp : s'.pos = ((m g).pos + 1) % w)
    (hn : s'.nSeen = if decide ((m g).nSeen ≥ w) then (m g).nSeen else (m g).nSeen + 1) :
    RingRel w (aset2 bufs g (posA g) v) (aset posA g (Int.fmod (posA g + 1) w))
      (aset seenA g (if decide ((m g).nSeen ≥ w) then seenA g else seenA g + 1)) (upd m g s') := by
  intro g' hg'
  obtain ⟨gb, gp, gpw, gn⟩ := h g' hg'
  unfold upd aset
  by_cases e : g' = g
  · subst e
    simp only [if_true, hb, hp, hn]
    refine ⟨(h.row_write hg v).symm, ?_, Nat.mod_lt _ hw, ?_⟩
    · rw [← gp, fmod_succ_cast _ _ hw]
    · rw [← gn]
      exact apply_ite (fun n : Nat => (n : Int)) _ _ _
  · simp only [e, if_false]
    exact ⟨by rw [rowV_aset2_other _ _ _ _ _ _ e]; exact gb, gp, gpw, gn⟩

end RingRel

/-! ### the window's running count and sum

Evicting the overwritten slot (when the window is full and the slot is not null) and accepting the new value: the
same two lines in `_rolling_sum_or_mean_1d`, `_rolling_max_or_min_1d` and in `rstep` / `mstep`. -/

def runCnt (k : Kind) (evict : Bool) (n : Int) (v : Val) : Int :=
  if isNull k v then (if evict then n - 1 else n) else (if evict then n - 1 else n) + 1

def runSum (k : Kind) (evict : Bool) (s old v : Val) : Val :=
  if isNull k v then (if evict then s.sub old else s) else (if evict then s.sub old else s).add v

/-- a cell that is not null for its kind is a number: all that the sum kernel needs of `WF k v` (only float arrays hold
NaN, and there NaN is the null) -/
def NumOrNull (k : Kind) (v : Val) : Prop := isNull k v = false → ∃ x, v = .num x

theorem sub_num (s : Int) (v : Val) (h : ∃ x, v = .num x) : Val.sub (.num s) v = .num (s - valInt v) := by
  obtain ⟨x, rfl⟩ := h; rfl

theorem add_num (s : Int) (v : Val) (h : ∃ x, v = .num x) : Val.add (.num s) v = .num (s + valInt v) := by
  obtain ⟨x, rfl⟩ := h; rfl

theorem valSub_eq_nan (a b : Val) (h : a.sub b = .nan) : a = .nan ∨ b = .nan := by
  cases a
  · exact Or.inl rfl
  · cases b
    · exact Or.inr rfl
    · cases h

theorem runSum_num (k : Kind) (c : Bool) (s : Int) (old v : Val) (ho : NumOrNull k old) (hv : NumOrNull k v) :
    runSum k (c && !isNull k old) (.num s) old v =
      .num (if isNull k v then (if c && !isNull k old then s - valInt old else s)
        else (if c && !isNull k old then s - valInt old else s) + valInt v) := by
  have h1 : (if c && !isNull k old then (Val.num s).sub old else .num s) =
      .num (if c && !isNull k old then s - valInt old else s) := by
    by_cases he : (c && !isNull k old) = true
    · have hon : isNull k old = false := by simpa using (Bool.and_eq_true _ _ |>.mp he).2
      rw [if_pos he, if_pos he, sub_num s old (ho hon)]
    · rw [if_neg he, if_neg he]
  unfold runSum
  rw [h1]
  by_cases hn : isNull k v = true
  · rw [if_pos hn, if_pos hn]
  · rw [if_neg hn, if_neg hn, add_num _ v (hv (Bool.eq_false_iff.mpr hn))]

/-! ### sum / mean -/

section sum
variable {k : Kind} {divf : Val → Int → Val} {gkl ml : Int} {gk : Int → Int} {mk : Int → Bool} {masked : Bool}
  {st : Rolling_sum_or_mean_loop2St}

-- `l1 .. l7`: the array lengths the translator threads for `normI`; they drop out, every index being non-negative
theorem sum_step_skip {w mp : Int} {ms wm : Bool} {l1 l2 l3 l4 l5 l6 l7 : Int} {v : Val}
    (h : (decide (gk (normI gkl (st.i + 1)) < 0) || (masked && !mk (normI ml (st.i + 1)))) = true) :
    rolling_sum_or_mean_loop2_step k divf gkl gk w mp ml ms mk wm masked l1 l2 l3 l4 l5 l6 l7 st v =
      { st with i := st.i + 1 } := by
  unfold rolling_sum_or_mean_loop2_step
  dsimp only
  rw [ite_skip, if_pos h]

/-- `sm n full old o` (in `shift_step_sel`, `max_step_sel` likewise): the cells the step reads, under names the caller
chooses - it passes the model's values -/
theorem sum_step_sel {w mp : Int} {ms wm : Bool} {l1 l2 l3 l4 l5 l6 l7 : Int} {v : Val}
    (g i' : Int) (hi : st.i + 1 = i') (hi0 : 0 ≤ i') (hg : gk i' = g) (hg0 : 0 ≤ g) (hm : (masked && !mk i') = false)
    (hp : 0 ≤ st.group_positions g) {sm old o : Val} {n : Int} {full : Bool}
    (hs : st.group_sums g = sm) (hn : st.group_non_null g = n) (hfull : decide (st.group_n_seen g ≥ w) = full)
    (hold : st.group_buffers g (st.group_positions g) = old) (ho : st.out' i' = o) :
    let p := st.group_positions g
    let evict := full && !isNull k old
    let s' := runSum k evict sm old v
    let n' := runCnt k evict n v
    rolling_sum_or_mean_loop2_step k divf gkl gk w mp ml ms mk wm masked l1 l2 l3 l4 l5 l6 l7 st v =
      ⟨i', aset st.group_sums g s', aset st.group_non_null g n', aset2 st.group_buffers g p v,
        aset st.group_positions g (Int.fmod (p + 1) w),
        aset st.group_n_seen g (if full then st.group_n_seen g else st.group_n_seen g + 1),
        aset st.out' i' (if n' ≥ mp then (if wm then (if n' > 0 then divf s' n' else o) else s') else o)⟩ := by
  intro p evict s' n'
  have hng : ¬ g < 0 := by omega
  simp only [rolling_sum_or_mean_loop2_step, hi, normI_nonneg _ _ hi0, hg, hng, decide_false, Bool.false_eq_true, if_false, hm,
    normI_nonneg _ _ hg0, normI_nonneg _ _ hp, hs, hn, hfull, hold, ho, ite_aset_left, ite_aset_right, ite_aset, aset_aset,
    aset_same, ite_bnot, ite_band, p, evict, s', n', runSum, runCnt, decide_eq_true_eq]

structure SumInv (k : Kind) (w : Nat) (t : Nat) (st : Rolling_sum_or_mean_loop2St) (m : Int → RS) : Prop where
  hi : st.i + 1 = (t : Int)  -- the source starts `i` at `-1` and increments it before use
  hnum : ∀ g c : Int, NumOrNull k (st.group_buffers g c)
  hring : RingRel w st.group_buffers st.group_positions st.group_n_seen m
  hsum : ∀ g : Int, 0 ≤ g → st.group_sums g = .num (m g).sum
  hnn : ∀ g : Int, 0 ≤ g → st.group_non_null g = (m g).nn

theorem sum_cell (k : Kind) (divf : Val → Int → Val) (nullv : Val) (op : RollOp) (hop : op = .sum ∨ op = .mean)
    (w minp : Nat) (b a : RS) (v : Val) :
    (if a.nn ≥ (minp : Int) then (if decide (op = .mean) then (if a.nn > 0 then divf (.num a.sum) a.nn else nullv)
      else .num a.sum) else nullv) = cellVal divf nullv (rollOut k op w minp b a v) := by
  rcases hop with rfl | rfl
  · simp only [show decide (RollOp.sum = RollOp.mean) = false from rfl, Bool.false_eq_true, if_false, rollOut]
    split <;> rfl
  · simp only [decide_true, if_true, rollOut]
    by_cases h1 : a.nn ≥ (minp : Int)
    · by_cases h2 : a.nn > 0
      · rw [if_pos h1, if_pos h2, if_pos ⟨h1, h2⟩]; rfl
      · rw [if_pos h1, if_neg h2, if_neg fun h => h2 h.2]; rfl
    · rw [if_neg h1, if_neg fun h => h1 h.1]; rfl

theorem sum_step {op : RollOp} (hop : op = .sum ∨ op = .mean) {nullv : Val} {w : Nat} (hw : 0 < w) {minp : Nat}
    {ng ol : Int} {t : Nat} {m : Int → RS} {r : CRow}
    (hcode : gk (t : Int) = r.code) (hsel : (masked && !mk (t : Int)) = !r.sel)
    (hv : NumOrNull k r.val) (h : SumInv k w t st m) (hun : st.out' (t : Int) = nullv) :
    let st' := rolling_sum_or_mean_loop2_step k divf gkl gk w minp ml masked mk (decide (op = .mean)) masked ng ng ng w ng ng ol
      st r.val
    SumInv k w (t + 1) st' (gstep (rollStep k op w) m (rollRow r)) ∧
      (∀ j : Int, j ≠ (t : Int) → st'.out' j = st.out' j) ∧
      st'.out' (t : Int) = if (rollRow r).1 < 0 then nullv else cellVal divf nullv
        (rollOut k op w minp (m (rollRow r).1) (rollStep k op w (m (rollRow r).1) (rollRow r).2) (rollRow r).2) := by
  intro st'
  rcases rollRow_cases r with ⟨hneg, hc⟩ | ⟨hrow, hk0, hs⟩
  · have e : st' = { st with i := st.i + 1 } :=
      sum_step_skip (by rw [h.hi, normI_natCast, normI_natCast, hcode, hsel]; exact hc)
    rw [e, gstep, if_pos hneg, if_pos hneg]
    exact ⟨⟨congrArg (· + 1) h.hi, h.hnum, h.hring, h.hsum, h.hnn⟩, fun _ _ => rfl, hun⟩
  · have hk : ¬ r.code < 0 := Int.not_lt.mpr hk0
    have hstep : rollStep k op w = rstep k w := by rcases hop with rfl | rfl <;> rfl
    have hold := h.hring.read hk0 (nullValue k)
    -- the group's cells in the model's terms: the kernel's new sum and count are then `rstep`'s
    have e : st' = _ := sum_step_sel r.code t h.hi (Int.natCast_nonneg t) hcode hk0 (by rw [hsel, hs]; rfl)
      (h.hring.pos_nonneg hk0) (hs := h.hsum _ hk0) (hn := h.hnn _ hk0) (hfull := h.hring.full hk0) (hold := hold.symm)
      (ho := hun)
    rw [runSum_num k _ _ _ _ (hold ▸ h.hnum _ _) hv] at e
    rw [hrow, gstep, hstep]
    dsimp only
    rw [if_neg hk, if_neg hk, e]
    refine ⟨⟨rfl, forall_aset2 _ h.hnum _ _ hv, h.hring.write hw hk0 _ _ rfl rfl rfl,
      forall_aset_upd (fun (a : Val) (s : RS) => a = Val.num s.sum) h.hsum _ rfl,
      forall_aset_upd (fun (a : Int) (s : RS) => a = s.nn) h.hnn _ rfl⟩, fun j hj => aset_other _ _ _ _ hj, ?_⟩
    exact (aset_same _ _ _).trans (sum_cell k divf nullv op hop w minp (m r.code) (rstep k w (m r.code) r.val) r.val)

end sum

/-- as `cum2of1` -/
def su2of1 (s : Rolling_sum_or_mean_loop1St) : Rolling_sum_or_mean_loop2St :=
  ⟨s.i, s.group_sums, s.group_non_null, s.group_buffers, s.group_positions, s.group_n_seen, s.out'⟩

theorem RingRel.init (k : Kind) (w : Nat) (hw : 0 < w) :
    RingRel w (fun _ _ => nullValue k) (fun _ => 0) (fun _ => 0) (fun _ => rinit k w) := by
  intro g _
  refine ⟨?_, rfl, hw, rfl⟩
  apply List.ext_getElem <;> simp [rinit, rowV]

/-- **`_rolling_sum_or_mean_1d` is the ring-buffer model `rolling k sum|mean`**: with `min_periods` given or defaulted to
the window, for well-formed values (only float arrays hold NaN), every output cell holds the model's cell: the running
window sum, or the quotient `divf sum count` for the mean, `null_value` where the model says null or writes nothing -/
theorem rolling_sum_or_mean_eq (k : Kind) (divf : Val → Int → Val) (op : RollOp) (hop : op = .sum ∨ op = .mean)
    (w : Nat) (hw : 0 < w) (minp : Option Nat) (codes : List Int) (chunks : List (List Val)) (msk : List Bool)
    (masked : Bool) (ng ml : Int) (nullv : Val)
    (hlen : codes.length = chunks.flatten.length)
    (hwf : ∀ v ∈ chunks.flatten, NumOrNull k v) (hnv : NumOrNull k nullv) (hnull : nullv = nullValue k) :
    let rows := cumRows codes chunks.flatten masked msk
    let r := rolling_sum_or_mean k divf codes.length (arrOf codes 0) chunks ng w minp.isSome (minp.getD 0) masked ml
      (arrOf msk true) nullv (decide (op = .mean))
    r.2 = false ∧ ∀ j, j < codes.length →
      r.1 (j : Int) = cellAt divf nullv (rolling k op w (minp.getD w) rows) j := by
  intro rows r
  subst hnull  -- `hnv` is then redundant: `NumOrNull k (nullValue k)` holds for every kind
  refine ⟨rfl, ?_⟩
  simp only [r, rows, rolling_sum_or_mean, minPeriods_default, cellAt_eq_cellOr, rolling_cumRows]
  exact And.right (And.right (foldl_chunks_sim _
    (rolling_sum_or_mean_loop2_step k divf codes.length (arrOf codes 0) w (minp.getD w : Nat) ml masked (arrOf msk true)
      (decide (op = .mean)) masked ng ng ng w ng ng codes.length)
    su2of1 (fun _ _ => rfl) chunks .nan (·.out') (rollStep k op w) _ (fun i => rollRow (cumRow codes chunks.flatten masked msk i))
    (cellVal divf (nullValue k)) (nullValue k) (SumInv k w) codes.length hlen _ (fun _ => rinit k w)
    ⟨rfl, fun _ _ => hnv, RingRel.init k w hw, fun _ _ => rfl, fun _ _ => rfl⟩
    (fun t s m ht hmem hinv hun =>
      sum_step (r := cumRow codes chunks.flatten masked msk t) hop hw (cumRow_code _ _ _ _ _) (cumRow_sel _ _ _ _ _)
        (hwf _ hmem) hinv (hun _ (Int.le_refl _)))))

/-! ### shift / diff -/

theorem cellVal_val (f : Val → Int → Val) (nullv x : Val) :
    (x = .nan → nullv = .nan) → cellVal f nullv (match x with | .num n => RCell.num n | .nan => RCell.null) = x := by
  intro h
  cases x with
  | num n => rfl
  | nan => exact h rfl

section shift
variable {k : Kind} {gkl ml : Int} {gk : Int → Int} {mk : Int → Bool} {masked : Bool} {st : Rolling_shift_or_diff_loop2St}

theorem shift_step_skip {w : Int} {ms ws : Bool} {l1 l2 l3 l4 l5 : Int} {v : Val}
    (h : (decide (gk (normI gkl (st.i + 1)) < 0) || (masked && !mk (normI ml (st.i + 1)))) = true) :
    rolling_shift_or_diff_loop2_step k gkl gk w ml ms mk ws masked l1 l2 l3 l4 l5 st v = { st with i := st.i + 1 } := by
  unfold rolling_shift_or_diff_loop2_step
  dsimp only
  rw [ite_skip, if_pos h]

theorem shift_step_sel {w : Int} {ms ws : Bool} {l1 l2 l3 l4 l5 : Int} {v : Val}
    (g i' : Int) (hi : st.i + 1 = i') (hi0 : 0 ≤ i') (hg : gk i' = g) (hg0 : 0 ≤ g) (hm : (masked && !mk i') = false)
    (hp : 0 ≤ st.group_buffer_pos g) {old o : Val} {full : Bool} (hfull : decide (st.group_counts g ≥ w) = full)
    (hold : st.group_buffers g (st.group_buffer_pos g) = old) (ho : st.out' i' = o) :
    let p := st.group_buffer_pos g
    rolling_shift_or_diff_loop2_step k gkl gk w ml ms mk ws masked l1 l2 l3 l4 l5 st v =
      ⟨i', aset st.group_counts g (if full then st.group_counts g else st.group_counts g + 1),
        aset st.out' i' (if full then (if ws then old else if isNull k v || isNull k old then o else v.sub old) else o),
        aset2 st.group_buffers g p v, aset st.group_buffer_pos g (Int.fmod (p + 1) w)⟩ := by
  intro p
  have hng : ¬ g < 0 := by omega
  simp only [rolling_shift_or_diff_loop2_step, hi, normI_nonneg _ _ hi0, hg, hng, decide_false, Bool.false_eq_true, if_false, hm,
    normI_nonneg _ _ hg0, normI_nonneg _ _ hp, hfull, hold, ho, ite_aset_left, ite_aset_right, ite_aset, ite_bnot, p]

structure ShiftInv (nullv : Val) (w : Nat) (t : Nat) (st : Rolling_shift_or_diff_loop2St) (m : Int → RS) : Prop where
  hi : st.i + 1 = (t : Int)
  -- in this form, not `k = .f`: it is what `cellVal_val` needs, and an integer array meets it for having no NaN cell
  hnan : ∀ g c : Int, st.group_buffers g c = .nan → nullv = .nan
  hring : RingRel w st.group_buffers st.group_buffer_pos st.group_counts m

theorem shift_cell (k : Kind) (nullv : Val) (op : RollOp) (hop : op = .shift ∨ op = .diff) (w minp : Nat) (b a : RS)
    (v : Val) (hon : b.buf.getD b.pos (nullValue k) = .nan → nullv = .nan) (hvn : v = .nan → nullv = .nan) :
    (if decide (b.nSeen ≥ w) then (if decide (op = .shift) then b.buf.getD b.pos (nullValue k)
      else if isNull k v || isNull k (b.buf.getD b.pos (nullValue k)) then nullv
      else v.sub (b.buf.getD b.pos (nullValue k))) else nullv) =
    cellVal (fun a _ => a) nullv (rollOut k op w minp b a v) := by
  rcases hop with rfl | rfl
  · simp only [decide_true, if_true, rollOut, decide_eq_true_eq]
    by_cases hf : b.nSeen ≥ w
    · rw [if_pos hf, if_pos hf]
      exact (cellVal_val _ _ _ hon).symm
    · rw [if_neg hf, if_neg hf]
      rfl
  · simp only [show decide (RollOp.diff = RollOp.shift) = false from rfl, Bool.false_eq_true, if_false, rollOut,
      decide_eq_true_eq]
    generalize b.buf.getD b.pos (nullValue k) = old at *
    by_cases hf : b.nSeen ≥ w
    · rw [if_pos hf, if_pos hf]
      by_cases hn : (isNull k v || isNull k old) = true
      · rw [if_pos hn, if_pos hn]
        rfl
      · rw [if_neg hn, if_neg hn]
        exact (cellVal_val _ _ _ fun h => (valSub_eq_nan _ _ h).elim hvn hon).symm
    · rw [if_neg hf, if_neg hf]
      rfl

theorem shift_step {op : RollOp} (hop : op = .shift ∨ op = .diff) {nullv : Val} {w : Nat} (hw : 0 < w) {minp : Nat}
    {ng ol : Int} {t : Nat} {m : Int → RS} {r : CRow}
    (hcode : gk (t : Int) = r.code) (hsel : (masked && !mk (t : Int)) = !r.sel)
    (hv : r.val = .nan → nullv = .nan) (h : ShiftInv nullv w t st m) (hun : st.out' (t : Int) = nullv) :
    let st' := rolling_shift_or_diff_loop2_step k gkl gk w ml masked mk (decide (op = .shift)) masked ng ol ng w ng st r.val
    ShiftInv nullv w (t + 1) st' (gstep (rollStep k op w) m (rollRow r)) ∧
      (∀ j : Int, j ≠ (t : Int) → st'.out' j = st.out' j) ∧
      st'.out' (t : Int) = if (rollRow r).1 < 0 then nullv else cellVal (fun a _ => a) nullv
        (rollOut k op w minp (m (rollRow r).1) (rollStep k op w (m (rollRow r).1) (rollRow r).2) (rollRow r).2) := by
  intro st'
  rcases rollRow_cases r with ⟨hneg, hc⟩ | ⟨hrow, hk0, hs⟩
  · have e : st' = { st with i := st.i + 1 } :=
      shift_step_skip (by rw [h.hi, normI_natCast, normI_natCast, hcode, hsel]; exact hc)
    rw [e, gstep, if_pos hneg, if_pos hneg]
    exact ⟨⟨congrArg (· + 1) h.hi, h.hnan, h.hring⟩, fun _ _ => rfl, hun⟩
  · have hk : ¬ r.code < 0 := Int.not_lt.mpr hk0
    have hstep : rollStep k op w = rstep k w := by rcases hop with rfl | rfl <;> rfl
    have hold := h.hring.read hk0 (nullValue k)
    have e : st' = _ := shift_step_sel r.code t h.hi (Int.natCast_nonneg t) hcode hk0 (by rw [hsel, hs]; rfl)
      (h.hring.pos_nonneg hk0) (hfull := h.hring.full hk0) (hold := hold.symm) (ho := hun)
    rw [hrow, gstep, hstep]
    dsimp only
    rw [if_neg hk, if_neg hk, e]
    refine ⟨⟨rfl, forall_aset2 (· = Val.nan → nullv = Val.nan) h.hnan _ _ hv, h.hring.write hw hk0 _ _ rfl rfl rfl⟩,
      fun j hj => aset_other _ _ _ _ hj, ?_⟩
    exact (aset_same _ _ _).trans (shift_cell k nullv op hop w minp _ _ _ (hold ▸ h.hnan _ _) hv)

end shift

/-- as `cum2of1` -/
def sh2of1 (s : Rolling_shift_or_diff_loop1St) : Rolling_shift_or_diff_loop2St :=
  ⟨s.i, s.group_counts, s.out', s.group_buffers, s.group_buffer_pos⟩

/-- **`_rolling_shift_or_diff_1d` is the ring-buffer model `rolling k shift|diff`**: every output cell holds the
model's cell (`null_value` where the model says null or writes nothing) -/
theorem rolling_shift_or_diff_eq (k : Kind) (op : RollOp) (hop : op = .shift ∨ op = .diff) (w : Nat) (hw : 0 < w)
    (minp : Nat) (codes : List Int) (chunks : List (List Val)) (msk : List Bool) (masked : Bool) (ng ml : Int)
    (hlen : codes.length = chunks.flatten.length)
    (hnan : ∀ v ∈ chunks.flatten, v = .nan → nullValue k = .nan) :
    let rows := cumRows codes chunks.flatten masked msk
    let r := rolling_shift_or_diff k codes.length (arrOf codes 0) chunks ng w masked ml (arrOf msk true) (nullValue k)
      (decide (op = .shift))
    r.2 = false ∧ ∀ j, j < codes.length →
      r.1 (j : Int) = cellAt (fun a _ => a) (nullValue k) (rolling k op w minp rows) j := by
  intro rows r
  refine ⟨rfl, ?_⟩
  simp only [r, rows, rolling_shift_or_diff, cellAt_eq_cellOr, rolling_cumRows]
  exact And.right (And.right (foldl_chunks_sim _
    (rolling_shift_or_diff_loop2_step k codes.length (arrOf codes 0) w ml masked (arrOf msk true) (decide (op = .shift)) masked
      ng codes.length ng w ng)
    sh2of1 (fun _ _ => rfl) chunks .nan (·.out') (rollStep k op w) _ (fun i => rollRow (cumRow codes chunks.flatten masked msk i))
    (cellVal (fun a _ => a) (nullValue k)) (nullValue k) (ShiftInv (nullValue k) w) codes.length hlen _ (fun _ => rinit k w)
    ⟨rfl, fun _ _ h => h, RingRel.init k w hw⟩
    (fun t s m ht hmem hinv hun =>
      shift_step (r := cumRow codes chunks.flatten masked msk t) hop hw (cumRow_code _ _ _ _ _) (cumRow_sel _ _ _ _ _)
        (hnan _ hmem) hinv (hun _ (Int.le_refl _)))))

end GV.LoopBridge
