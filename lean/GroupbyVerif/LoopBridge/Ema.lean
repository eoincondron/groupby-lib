import GroupbyVerif.LoopBridge.Fold
import GroupbyVerif.Generated.Loops
import GroupbyVerif.Model.Ema
import Mathlib.Algebra.Order.Field.Rat

/-!
# Bridge: the four translated EMA kernels are the models of `Model/Ema.lean`

`_ema_grouped` / `_ema_grouped_timed` keep the decayed numerator / denominator / previous output (/ previous
timestamp) of every group in arrays indexed by the code, the ungrouped `_ema_adjusted` / `_ema_time_weighted` in two
scalars, with `out[i-1]` as the previous output; the models keep one record `ESt` per series and compute over `Rat`.
The translation computes over `FVal` (NaN or an exact rational).  A row is *invalid* for the model when its value is
NaN or the mask drops it (`obsOf`).  The time-weighted decay `exp(-ln 2 · Δt / halflife)` is an uninterpreted function
of the source (`expf`, `ln2`): the model's abstract `decay Δt` is instantiated with it.
-/

namespace GV.LoopBridge
open GV GV.Generated.Loops

/-- rendering of an optional rational as a float cell -/
def optF : Option Rat → FVal
  | none => .nan
  | some v => .q v

/-- the observation the model sees at a row: `none` when the value is NaN or the row is dropped by the mask -/
def obsOf (v : FVal) (dropped : Bool) : Option Rat :=
  match v with
  | .nan => none
  | .q x => if dropped then none else some x

/-- the output cell for a model output: NaN for a null-key row and for "no output yet" -/
def emaCell (l : List (Option (Option Rat))) (j : Nat) : FVal :=
  match l[j]? with
  | some (some (some v)) => .q v
  | _ => .nan

/-- the kernels' test `isnan(x) or (masked and not mask[i])` is the model's "no observation" -/
theorem obsOf_cases (x : FVal) (d : Bool) :
    (x.isNan || d) = true ∧ obsOf x d = none ∨ ∃ v, x = .q v ∧ d = false ∧ obsOf x d = some v := by
  cases x <;> cases d <;> simp [obsOf, FVal.isNan]

theorem emaCell_eq (l : List (Option (Option Rat))) (j : Nat) : emaCell l j = cellOr optF .nan l[j]? := by
  unfold emaCell
  rcases l[j]? with _ | _ | _ | _ <;> rfl

theorem emaCell_single {σ β : Type} (step : σ → β → σ) (out : σ → β → Option Rat) (init : σ) (xs : List β) (i : Nat)
    (hi : i < xs.length) :
    emaCell (loopGo step out (fun _ => init) (xs.map fun x => ((0 : Int), x))) i =
      optF (out ((xs.take i).foldl step init) xs[i]) := by
  rw [emaCell_eq, loopGo_getElem?, List.getElem?_map, List.getElem?_eq_getElem hi, ← List.map_take]
  simp only [Option.map_some, groupFold_single]
  rfl

/-! ### one series' cells

All four kernels keep a decayed numerator and denominator per series, as float cells; `ERel`: they hold the model's
rationals.  Its three lemmas are the three things a kernel does with them.  `nonneg` (hence `0 ≤ β`, `0 ≤ decay d` in
the bridges) keeps the divisor `1 + w` away from 0, so `FVal.div` never takes its NaN branch (`ERel.out`). -/

structure ERel (r w : FVal) (a b : Rat) : Prop where
  r_eq : r = .q a
  w_eq : w = .q b
  nonneg : 0 ≤ b

theorem ERel.scale {r w : FVal} {a b c : Rat} (h : ERel r w a b) (hc : 0 ≤ c) :
    ERel (r.mul (.q c)) (w.mul (.q c)) (a * c) (b * c) := by
  obtain ⟨rfl, rfl, h0⟩ := h
  exact ⟨rfl, rfl, mul_nonneg h0 hc⟩

theorem ERel.add {r w : FVal} {a b : Rat} (h : ERel r w a b) (v : Rat) :
    ERel (r.add (.q v)) (w.add (.ofInt 1)) (a + v) (b + 1) := by
  obtain ⟨rfl, rfl, h0⟩ := h
  exact ⟨rfl, by simp [FVal.add, FVal.ofInt], add_nonneg h0 zero_le_one⟩

theorem ERel.out {r w : FVal} {a b : Rat} (h : ERel r w a b) (v : Rat) :
    FVal.div (FVal.add (.q v) r) (FVal.add (.ofInt 1) w) = .q ((v + a) / (1 + b)) := by
  obtain ⟨rfl, rfl, h0⟩ := h
  have : (1 : Rat) + b ≠ 0 := (add_pos_of_pos_of_nonneg one_pos h0).ne'
  simp [FVal.div, FVal.add, FVal.ofInt, this]

/-! ### `_ema_grouped` -/

/-- nothing is claimed at negative codes: a null-key row leaves the state arrays alone -/
def GRel (rA wA lA : Int → FVal) (m : Int → ESt) : Prop :=
  ∀ g : Int, 0 ≤ g → ERel (rA g) (wA g) (m g).r (m g).w ∧ lA g = optF (m g).last

theorem GRel.set {rA wA lA : Int → FVal} {m : Int → ESt} (h : GRel rA wA lA m) (c : Int) {r w l : FVal} {s : ESt}
    (hc : ERel r w s.r s.w) (hl : l = optF s.last) : GRel (aset rA c r) (aset wA c w) (aset lA c l) (upd m c s) := by
  intro g hg
  by_cases e : g = c
  · subst e; simpa [aset_apply, upd] using ⟨hc, hl⟩
  · simpa [aset_apply, upd, e] using h g hg

theorem ema_step {k : Kind} {β : Rat} (hβ : 0 ≤ β) {gk : Int → Int} {vals : Int → FVal} {masked : Bool}
    {mk : Int → Bool} {ng ml gkl vl ol : Int} (t : Nat) (st : Ema_grouped_loop1St) (m : Int → ESt)
    (h : GRel st.residuals st.residual_weights st.last_seen m) :
    let st' := ema_grouped_loop1_step k gkl gk vl vals ml masked mk (.q β) masked ol ng ng ng st (t : Int)
    let row := (gk (t : Int), obsOf (vals (t : Int)) (masked && !mk (t : Int)))
    GRel st'.residuals st'.residual_weights st'.last_seen (gstep (emaStep β) m row) ∧
      (∀ j : Int, j ≠ (t : Int) → st'.out' j = st.out' j) ∧
      st'.out' (t : Int) = if row.1 < 0 then .nan else optF (emaOut (m row.1) row.2) := by
  obtain ⟨so, sw, sr, sl⟩ := st
  intro st' row
  by_cases hk : gk (t : Int) < 0
  · simp only [st', row, ema_grouped_loop1_step, normI_natCast, gstep, hk, decide_true, if_true]
    exact ⟨h, fun j hj => aset_other _ _ _ _ hj, aset_same _ _ _⟩
  · have hk0 : 0 ≤ gk (t : Int) := Int.not_lt.mp hk
    obtain ⟨hrw, hl⟩ := h _ hk0
    simp only [st', row, ema_grouped_loop1_step, normI_natCast, gstep, hk, decide_false, Bool.false_eq_true, if_false,
      normI_nonneg _ _ hk0]
    rcases obsOf_cases (vals (t : Int)) (masked && !mk (t : Int)) with ⟨hc, hx⟩ | ⟨v, hv, hd, -⟩
    · simp only [hc, hx, if_true, aset_same]
      exact ⟨h.set _ (hrw.scale hβ) hl, fun j hj => aset_other _ _ _ _ hj, hl⟩
    · simp only [hv, hd, FVal.isNan, Bool.or_false, Bool.false_eq_true, if_false, aset_same, aset_aset]
      exact ⟨h.set _ ((hrw.add v).scale hβ) (hrw.out v), fun j hj => aset_other _ _ _ _ hj, hrw.out v⟩

/-- the rows the model sees: code and observation (`none` for a NaN value or a row dropped by the mask) -/
def emaRows (codes : List Int) (vals : List FVal) (masked : Bool) (msk : List Bool) : List (Int × Option Rat) :=
  (List.range codes.length).map fun i => (codes.getD i 0, obsOf (vals.getD i .nan) (masked && !(msk.getD i true)))

theorem getD_replicate_self {α : Type} (n i : Nat) (d : α) : (List.replicate n d).getD i d = d := by
  rw [List.getD_eq_getElem?_getD, List.getElem?_replicate]; split <;> rfl

theorem emaRows_single (vals : List FVal) :
    emaRows (List.replicate vals.length 0) vals false [] = (vals.map (obsOf · false)).map fun x => ((0 : Int), x) := by
  rw [emaRows, List.length_replicate, List.map_map]
  conv_rhs => rw [list_eq_map_range vals .nan, List.map_map]
  refine List.map_congr_left fun i _ => ?_
  rw [getD_replicate_self]; rfl

/-- the kernels' `beta = 1 - alpha` -/
theorem sub_one_sub (β : Rat) : FVal.sub (FVal.ofInt 1) (FVal.q (1 - β)) = FVal.q β := by
  simp only [FVal.sub, FVal.ofInt]; congr 1; simp

/-- **`_ema_grouped` is `emaGrouped`**: with `alpha = 1 - β`, `0 ≤ β`, every output cell holds the model's output
(NaN at a null-key row and before the group's first valid observation) -/
theorem ema_grouped_eq (k : Kind) (β : Rat) (hβ : 0 ≤ β) (codes : List Int) (vals : List FVal) (msk : List Bool)
    (masked : Bool) (ng ml : Int) (hlen : codes.length = vals.length) :
    let r := ema_grouped k codes.length (arrOf codes 0) vals.length (arrOf vals .nan) (.q (1 - β)) ng masked ml
      (arrOf msk true)
    r.2 = false ∧ ∀ j, j < codes.length →
      r.1 (j : Int) = emaCell (emaGrouped β (emaRows codes vals masked msk)) j := by
  intro r
  refine ⟨rfl, fun j hj => ?_⟩
  simp only [r, ema_grouped, ← hlen, Int.min_self, rangeI_natCast, sub_one_sub]
  rw [emaCell_eq]
  exact (foldl_range_sim _ _ Ema_grouped_loop1St.out' (emaStep β) emaOut
    (fun t => (arrOf codes 0 t, obsOf (arrOf vals .nan t) (masked && !arrOf msk true t))) optF .nan
    (fun _ st m => GRel st.residuals st.residual_weights st.last_seen m) codes.length _ (fun _ => eInit)
    (fun g _ => ⟨⟨rfl, rfl, le_refl _⟩, rfl⟩)
    (fun t st m _ h _ => ema_step hβ t st m h)).2.2 j hj

/-! ### `_ema_grouped_timed` -/

theorem decayed_last (decay : Int → Rat) (s : ESt) (t : Int) : (decayed decay s t).last = s.last := by
  unfold decayed; split <;> rfl

/-- the kernel's `if last_seen_time != NaT: r *= exp(..); w *= exp(..)`, with NaT in the cell `seen` for "no previous
timestamp" -/
theorem ERel.cond_decay {r w : FVal} {s : ESt} (h : ERel r w s.r s.w) {seen : Int} (hseen : seen = s.lastT.getD minInt64)
    (hne : s.lastT ≠ some minInt64) (decay : Int → Rat) (hdec0 : ∀ d : Int, 0 ≤ decay d) (t : Int) :
    ERel (if decide (seen ≠ minInt64) then r.mul (.q (decay (t - seen))) else r)
      (if decide (seen ≠ minInt64) then w.mul (.q (decay (t - seen))) else w)
      (decayed decay s t).r (decayed decay s t).w := by
  unfold decayed
  cases hs : s.lastT with
  | none => simpa [hseen, hs] using h
  | some t0 =>
    have : t0 ≠ minInt64 := fun e => hne (by rw [hs, e])
    simpa [hseen, hs, this] using h.scale (hdec0 (t - t0))

/-- `last_seen_times`: the int64 minimum (NaT) stands for "no row yet", so a real timestamp must differ from it -/
def TRel (tA : Int → Int) (m : Int → ESt) : Prop :=
  ∀ g : Int, 0 ≤ g → tA g = (m g).lastT.getD minInt64 ∧ (m g).lastT ≠ some minInt64

theorem TRel.set {tA : Int → Int} {m : Int → ESt} (h : TRel tA m) (c t : Int) {s : ESt} (hs : s.lastT = some t)
    (ht : t ≠ minInt64) : TRel (aset tA c t) (upd m c s) := by
  intro g hg
  by_cases e : g = c
  · subst e; simp [upd, hs, ht]
  · simpa [aset_apply, upd, e] using h g hg

theorem emat_step {k : Kind} {ln2 : FVal} {expf : FVal → FVal} {halflife : Int} {decay : Int → Rat}
    (hdec : ∀ d : Int, expf (FVal.mul (FVal.neg ln2) (FVal.divII d halflife)) = .q (decay d))
    (hdec0 : ∀ d : Int, 0 ≤ decay d)
    {gk : Int → Int} {vals : Int → FVal} {times : Int → Int} {masked : Bool}
    {mk : Int → Bool} {ng ml gkl vl tl ol : Int} (t : Nat) (st : Ema_grouped_timed_loop1St) (m : Int → ESt)
    (htime : times (t : Int) ≠ minInt64)
    (h : GRel st.residuals st.residual_weights st.last_seen m) (hT : TRel st.last_seen_times m) :
    let st' := ema_grouped_timed_loop1_step k ln2 expf gkl gk vl vals tl times halflife ml masked mk masked ol ng ng ng ng st
      (t : Int)
    let row := (gk (t : Int), (times (t : Int), obsOf (vals (t : Int)) (masked && !mk (t : Int))))
    (GRel st'.residuals st'.residual_weights st'.last_seen (gstep (emaStepTimed decay) m row) ∧
        TRel st'.last_seen_times (gstep (emaStepTimed decay) m row)) ∧
      (∀ j : Int, j ≠ (t : Int) → st'.out' j = st.out' j) ∧
      st'.out' (t : Int) = if row.1 < 0 then .nan else optF (emaOutTimed decay (m row.1) row.2) := by
  obtain ⟨so, sr, sw, stt, sl⟩ := st
  intro st' row
  by_cases hk : gk (t : Int) < 0
  · simp only [st', row, ema_grouped_timed_loop1_step, normI_natCast, gstep, hk, decide_true, if_true]
    exact ⟨⟨h, hT⟩, fun j hj => aset_other _ _ _ _ hj, aset_same _ _ _⟩
  · have hk0 : 0 ≤ gk (t : Int) := Int.not_lt.mp hk
    obtain ⟨hrw, hl⟩ := h _ hk0
    obtain ⟨hseen, hne⟩ := hT _ hk0
    have hd := hrw.cond_decay hseen hne decay hdec0 (times (t : Int))
    rw [← decayed_last decay _ (times (t : Int))] at hl
    simp only [st', row, ema_grouped_timed_loop1_step, normI_natCast, gstep, hk, decide_false, Bool.false_eq_true,
      if_false, normI_nonneg _ _ hk0, hdec, ite_aset_left, aset_same, aset_aset]
    rcases obsOf_cases (vals (t : Int)) (masked && !mk (t : Int)) with ⟨hc, hx⟩ | ⟨v, hv, hd', -⟩
    · simp only [hc, hx, if_true, aset_same]
      exact ⟨⟨h.set _ hd hl, hT.set _ _ rfl htime⟩, fun j hj => aset_other _ _ _ _ hj, hl⟩
    · simp only [hv, hd', FVal.isNan, Bool.or_false, Bool.false_eq_true, if_false, aset_same]
      exact ⟨⟨h.set _ (hd.add v) (hd.out v), hT.set _ _ rfl htime⟩, fun j hj => aset_other _ _ _ _ hj, hd.out v⟩

/-- the rows the timed model sees: code, timestamp and observation -/
def emaTRows (codes : List Int) (vals : List FVal) (times : List Int) (masked : Bool) (msk : List Bool) :
    List (Int × (Int × Option Rat)) :=
  (List.range codes.length).map fun i =>
    (codes.getD i 0, (times.getD i 0, obsOf (vals.getD i .nan) (masked && !(msk.getD i true))))

theorem emaTRows_single (vals : List FVal) (times : List Int) :
    emaTRows (List.replicate vals.length 0) vals times false [] =
      ((List.range vals.length).map fun i => (times.getD i 0, obsOf (vals.getD i .nan) false)).map
        fun x => ((0 : Int), x) := by
  rw [emaTRows, List.length_replicate, List.map_map]
  refine List.map_congr_left fun i _ => ?_
  rw [getD_replicate_self]; rfl

/-- **`_ema_grouped_timed` is `emaGroupedTimed`** with the decay `Δt ↦ exp(-ln 2 · Δt / halflife)` of the source
(given as an uninterpreted `expf` / `ln2` whose values on those arguments are the rationals `decay Δt ≥ 0`), for
timestamps different from the "not seen" sentinel (the int64 minimum, i.e. NaT) -/
theorem ema_grouped_timed_eq (k : Kind) (ln2 : FVal) (expf : FVal → FVal) (halflife : Int) (decay : Int → Rat)
    (hdec : ∀ d : Int, expf (FVal.mul (FVal.neg ln2) (FVal.divII d halflife)) = .q (decay d))
    (hdec0 : ∀ d : Int, 0 ≤ decay d)
    (codes : List Int) (vals : List FVal) (times : List Int) (msk : List Bool)
    (masked : Bool) (ng ml : Int) (hlen : codes.length = vals.length) (hlent : codes.length = times.length)
    (htimes : ∀ t ∈ times, t ≠ minInt64) :
    let r := ema_grouped_timed k ln2 expf codes.length (arrOf codes 0) vals.length (arrOf vals .nan) times.length
      (arrOf times 0) halflife ng masked ml (arrOf msk true)
    r.2 = false ∧ ∀ j, j < codes.length →
      r.1 (j : Int) = emaCell (emaGroupedTimed decay (emaTRows codes vals times masked msk)) j := by
  intro r
  refine ⟨rfl, fun j hj => ?_⟩
  simp only [r, ema_grouped_timed, ← hlen, Int.min_self, rangeI_natCast]
  rw [emaCell_eq]
  exact (foldl_range_sim _ _ Ema_grouped_timed_loop1St.out' (emaStepTimed decay) (emaOutTimed decay)
    (fun t => (arrOf codes 0 t, (arrOf times 0 t, obsOf (arrOf vals .nan t) (masked && !arrOf msk true t)))) optF .nan
    (fun _ st m => GRel st.residuals st.residual_weights st.last_seen m ∧ TRel st.last_seen_times m) codes.length _
    (fun _ => eInit) ⟨fun g _ => ⟨⟨rfl, rfl, le_refl _⟩, rfl⟩, fun g _ => ⟨rfl, nofun⟩⟩
    (fun t st m ht h _ => emat_step hdec hdec0 t st m
      (by
        rw [arrOf_natCast, getD_eq_getElem _ _ (hlent ▸ ht)]
        exact htimes _ (List.getElem_mem _))
      h.1 h.2)).2.2 j hj

/-! ### the ungrouped `_ema_adjusted` -/

/-- running state of a single series (the model's `emaStep` folded from the empty state) -/
def runE (β : Rat) (xs : List (Option Rat)) : ESt := xs.foldl (emaStep β) eInit

theorem emaStep_last (β : Rat) (s : ESt) (x : Option Rat) : (emaStep β s x).last = emaOut s x := by
  cases x <;> rfl

theorem runE_snoc (β : Rat) (xs : List (Option Rat)) (t : Nat) (ht : t < xs.length) :
    runE β (xs.take (t + 1)) = emaStep β (runE β (xs.take t)) xs[t] :=
  foldl_take_succ _ _ _ _ ht

/-- `_ema_adjusted` starts from `zeros_like`: until the first valid observation its cells hold 0, not NaN -/
def zeroF : Option Rat → FVal
  | none => .ofInt 0
  | some v => .q v

/-- one row of `_ema_adjusted` is one `emaStep`; `hprev`: the cell an invalid row copies is `out[t-1]`, which at `t = 0`
wraps to the still untouched `out[-1]` -/
theorem adj_step (k : Kind) (β : Rat) (hβ : 0 ≤ β) (n : Int) (vals : Int → FVal) (t : Nat) (st : Ema_adjusted_loop1St)
    (s : ESt) (h : ERel st.residual st.residual_weights s.r s.w)
    (hprev : st.out' (normI n ((t : Int) - 1)) = zeroF s.last) :
    let st' := ema_adjusted_loop1_step k n vals (.q β) n st (t : Int)
    let x := obsOf (vals (t : Int)) false
    ERel st'.residual st'.residual_weights (emaStep β s x).r (emaStep β s x).w ∧
      (∀ j : Int, j ≠ (t : Int) → st'.out' j = st.out' j) ∧ st'.out' (t : Int) = zeroF (emaOut s x) := by
  obtain ⟨so, sw, sr⟩ := st
  intro st' x
  simp only [st', x, ema_adjusted_loop1_step, normI_natCast]
  rcases obsOf_cases (vals (t : Int)) false with ⟨hc, hx⟩ | ⟨v, hv, -, -⟩
  · rw [Bool.or_false] at hc
    simp only [hc, hx, if_true]
    exact ⟨h.scale hβ, fun j hj => aset_other _ _ _ _ hj, by rw [aset_same]; exact hprev⟩
  · simp only [hv, FVal.isNan, Bool.false_eq_true, if_false]
    exact ⟨(h.add v).scale hβ, fun j hj => aset_other _ _ _ _ hj, by rw [aset_same]; exact h.out v⟩

theorem foldl_emaStep_last_ne_none (β : Rat) : ∀ (xs : List (Option Rat)) (s : ESt), (s.last ≠ none ∨ ∃ v, some v ∈ xs) →
    (xs.foldl (emaStep β) s).last ≠ none
  | [], s, h => by simpa using h
  | none :: ys, s, h => foldl_emaStep_last_ne_none β ys _ (by simpa [emaStep] using h)
  | some v :: ys, s, _ => foldl_emaStep_last_ne_none β ys _ (Or.inl (by simp [emaStep]))

/-- every cell of `_ema_adjusted`: the single-series model's output, and 0 while there is none -/
theorem ema_adjusted_cell (k : Kind) (β : Rat) (hβ : 0 ≤ β) (vals : List FVal) (i : Nat) (hi : i < vals.length) :
    (ema_adjusted k vals.length (arrOf vals .nan) (.q (1 - β))).1 (i : Int) =
      zeroF (emaOut (runE β ((vals.map (obsOf · false)).take i)) ((vals.map (obsOf · false)).getD i none)) := by
  generalize hxs : vals.map (obsOf · false) = xs
  have hlen : xs.length = vals.length := by rw [← hxs, List.length_map]
  simp only [ema_adjusted, rangeI_natCast, sub_one_sub, List.range_eq_range']
  refine (foldl_rows _ _ Ema_adjusted_loop1St.out'
    (fun t st => ERel st.residual st.residual_weights (runE β (xs.take t)).r (runE β (xs.take t)).w ∧
      (t = 0 → ∀ j, st.out' j = .ofInt 0))
    (fun j => zeroF (emaOut (runE β (xs.take j)) (xs.getD j none))) 0 vals.length (Nat.zero_le _) ?_ _
    ⟨⟨rfl, rfl, le_refl _⟩, fun _ _ => rfl⟩ (fun j hj => absurd hj (Nat.not_lt_zero j))).2 i hi
  intro t st _ ht hinv hvis
  have htx : t < xs.length := hlen.symm ▸ ht
  have hxt : xs[t] = obsOf (arrOf vals .nan t) false := by
    subst hxs; rw [List.getElem_map, arrOf_natCast, getD_eq_getElem _ _ ht]
  have hprev : st.out' (normI vals.length ((t : Int) - 1)) = zeroF (runE β (xs.take t)).last := by
    cases t with
    | zero => rw [hinv.2 rfl]; rfl
    | succ t' =>
      have ht' : t' < xs.length := Nat.lt_of_succ_lt htx
      rw [Int.natCast_succ, Int.add_sub_cancel, normI_natCast, hvis t' (Nat.lt_succ_self t'), runE_snoc _ _ _ ht',
        emaStep_last, getD_eq_getElem _ _ ht']
  obtain ⟨h1, h2, h3⟩ := adj_step k β hβ vals.length (arrOf vals .nan) t st _ hinv.1 hprev
  rw [← hxt] at h1 h3
  rw [runE_snoc _ _ _ htx, getD_eq_getElem _ _ htx]
  exact ⟨⟨h1, fun e => absurd e (Nat.succ_ne_zero t)⟩, fun j hj => h2 j (Int.ne_of_lt (Int.ofNat_lt.mpr hj)), h3⟩

/-- **the ungrouped `_ema_adjusted` is the single-series model** from the first valid observation on: once some value
up to row `i` is not NaN, cell `i` holds the model's output on the series' own history (before that the kernel leaves the
zero of `zeros_like` - not a claim of the property) -/
theorem ema_adjusted_eq (k : Kind) (β : Rat) (hβ : 0 ≤ β) (vals : List FVal) (i : Nat) (hi : i < vals.length)
    (hvalid : ∃ j, j < i + 1 ∧ ∃ v, (vals.map (fun v => obsOf v false))[j]? = some (some v)) :
    let xs := vals.map (fun v => obsOf v false)
    let r := ema_adjusted k vals.length (arrOf vals .nan) (.q (1 - β))
    r.2 = false ∧ r.1 (i : Int) = optF (emaOut (runE β (xs.take i)) (xs.getD i none)) := by
  intro xs r
  refine ⟨rfl, ?_⟩
  have hil : i < xs.length := by simpa [xs] using hi
  have hne : emaOut (runE β (xs.take i)) (xs.getD i none) ≠ none := by
    rw [getD_eq_getElem _ _ hil, ← emaStep_last β, ← runE_snoc _ _ _ hil]
    obtain ⟨j, hj, v, hv⟩ := hvalid
    have hmem : some v ∈ xs.take (i + 1) := List.mem_of_getElem? ((List.getElem?_take_of_lt hj).trans hv)
    exact foldl_emaStep_last_ne_none β _ _ (.inr ⟨v, hmem⟩)
  rw [ema_adjusted_cell k β hβ vals i hi]
  cases h : emaOut (runE β (xs.take i)) (xs.getD i none) with
  | none => exact absurd h hne
  | some v => rfl

/-! ### the ungrouped `_ema_time_weighted` -/

/-- running state of a single timed series -/
def runTE (decay : Int → Rat) (rows : List (Int × Option Rat)) : ESt := rows.foldl (emaStepTimed decay) eInit

theorem runTE_snoc (decay : Int → Rat) (rows : List (Int × Option Rat)) (t : Nat) (ht : t < rows.length) :
    runTE decay (rows.take (t + 1)) = emaStepTimed decay (runTE decay (rows.take t)) rows[t] :=
  foldl_take_succ _ _ _ _ ht

theorem emaStepTimed_last (decay : Int → Rat) (s : ESt) (tx : Int × Option Rat) :
    (emaStepTimed decay s tx).last = emaOutTimed decay s tx := by
  obtain ⟨t, x⟩ := tx
  cases x <;> rfl

theorem emaStepTimed_lastT (decay : Int → Rat) (s : ESt) (tx : Int × Option Rat) :
    (emaStepTimed decay s tx).lastT = some tx.1 := by
  unfold emaStepTimed; split <;> rfl

/-- row `q = t + 1` of `_ema_time_weighted` is one `emaStepTimed`, given the state after row `t`; `q` is left open so
that the caller can pass `((t + 1 : Nat) : Int)` -/
theorem tw_step (k : Kind) (ln2 : FVal) (expf : FVal → FVal) (halflife : Int) (decay : Int → Rat)
    (hdec : ∀ d : Int, expf (FVal.mul (FVal.neg ln2) (FVal.divII d halflife)) = .q (decay d))
    (hdec0 : ∀ d : Int, 0 ≤ decay d) (n tl : Int) (vals : Int → FVal) (times : Int → Int) (t : Nat) (q : Int)
    (hq : q = (t : Int) + 1) (st : Ema_time_weighted_loop1St) (s : ESt)
    (h : ERel st.residual st.residual_weights s.r s.w) (hT : s.lastT = some (times (t : Int)))
    (hprev : st.out' (t : Int) = optF s.last) :
    let st' := ema_time_weighted_loop1_step k ln2 expf n vals tl times halflife n st q
    let row := (times q, obsOf (vals q) false)
    ERel st'.residual st'.residual_weights (emaStepTimed decay s row).r (emaStepTimed decay s row).w ∧
      (∀ j : Int, j ≠ q → st'.out' j = st.out' j) ∧ st'.out' q = optF (emaOutTimed decay s row) := by
  obtain ⟨sr, sw, so⟩ := st
  subst hq
  intro st' row
  -- the translation of `for i, x in enumerate(arr[1:], 1)` computes the row as `1 + (q - 1)` and reads row `i - 1`
  have hpred : (t : Int) + 1 - 1 = (t : Int) := Int.add_sub_cancel _ _
  have hrow : (1 : Int) + (t : Int) = (t : Int) + 1 := Int.add_comm _ _
  have hq0 : (0 : Int) ≤ (t : Int) + 1 := Int.le_add_one (Int.natCast_nonneg t)
  have hd : ERel (sr.mul (.q (decay (times ((t : Int) + 1) - times (t : Int)))))
      (sw.mul (.q (decay (times ((t : Int) + 1) - times (t : Int)))))
      (decayed decay s (times ((t : Int) + 1))).r (decayed decay s (times ((t : Int) + 1))).w := by
    simp only [decayed, hT]; exact h.scale (hdec0 _)
  rw [← decayed_last decay s (times ((t : Int) + 1))] at hprev
  simp only [st', row, ema_time_weighted_loop1_step, hpred, hrow, normI_natCast, normI_nonneg _ _ hq0, hdec]
  rcases obsOf_cases (vals ((t : Int) + 1)) false with ⟨hc, hx⟩ | ⟨v, hv, -, -⟩
  · rw [Bool.or_false] at hc
    simp only [hc, hx, if_true]
    exact ⟨hd, fun j hj => aset_other _ _ _ _ hj, by rw [aset_same]; exact hprev⟩
  · simp only [hv, FVal.isNan, Bool.false_eq_true, if_false]
    exact ⟨hd.add v, fun j hj => aset_other _ _ _ _ hj, by rw [aset_same]; exact hd.out v⟩

/-- row 0 of `_ema_time_weighted` (`residual = out[0] = arr[0]`, or nothing for a NaN) is the model's first step -/
theorem tw_first (decay : Int → Rat) (t0 : Int) (v0 : FVal) :
    ERel (if v0.isNan then .ofInt 0 else v0) (if v0.isNan then .ofInt 0 else .ofInt 1)
        (emaStepTimed decay eInit (t0, obsOf v0 false)).r (emaStepTimed decay eInit (t0, obsOf v0 false)).w ∧
      (if v0.isNan then FVal.nan else v0) = optF (emaOutTimed decay eInit (t0, obsOf v0 false)) := by
  cases v0 with
  | nan => exact ⟨⟨rfl, rfl, le_refl _⟩, rfl⟩
  | q v =>
    show ERel (.q v) (.ofInt 1) (0 + v) (0 + 1) ∧ FVal.q v = .q ((v + 0) / (1 + 0))
    rw [zero_add, zero_add, add_zero, add_zero, div_one]
    exact ⟨⟨rfl, by simp [FVal.ofInt], zero_le_one⟩, rfl⟩

/-- **the ungrouped `_ema_time_weighted` is the single-series time-weighted model at every row** (a leading NaN gives
NaN, as in the grouped kernel) -/
theorem ema_time_weighted_eq (k : Kind) (ln2 : FVal) (expf : FVal → FVal) (halflife : Int) (decay : Int → Rat)
    (hdec : ∀ d : Int, expf (FVal.mul (FVal.neg ln2) (FVal.divII d halflife)) = .q (decay d))
    (hdec0 : ∀ d : Int, 0 ≤ decay d)
    (vals : List FVal) (times : List Int) (hlen : vals.length = times.length) (hne : 0 < vals.length)
    (i : Nat) (hi : i < vals.length) :
    let rows := (List.range vals.length).map fun i => (times.getD i 0, obsOf (vals.getD i .nan) false)
    let r := ema_time_weighted k ln2 expf vals.length (arrOf vals .nan) times.length (arrOf times 0) halflife
    r.2 = false ∧ r.1 (i : Int) = optF (emaOutTimed decay (runTE decay (rows.take i)) (rows.getD i (0, none))) := by
  -- `hlen` is not used: the translation's arrays are total functions
  intro rows r
  have hrl : rows.length = vals.length := by rw [List.length_map, List.length_range]
  have hrow : ∀ (t : Nat) (ht : t < vals.length),
      rows[t]'(hrl.symm ▸ ht) = (arrOf times 0 t, obsOf (arrOf vals .nan t) false) := fun t ht => by
    rw [List.getElem_map, List.getElem_range, arrOf_natCast, arrOf_natCast]
  have hne' : 0 < rows.length := hrl.symm ▸ hne
  have h0 := tw_first decay (arrOf times 0 (0 : Nat)) (arrOf vals .nan (0 : Nat))
  rw [← hrow 0 hne] at h0
  refine ⟨rfl, ?_⟩
  simp only [r, ema_time_weighted, rangeI2_one, normI_nonneg _ _ (Int.le_refl 0)]
  refine (foldl_rows _ _ Ema_time_weighted_loop1St.out'
    (fun t st => ERel st.residual st.residual_weights (runTE decay (rows.take t)).r (runTE decay (rows.take t)).w)
    (fun j => optF (emaOutTimed decay (runTE decay (rows.take j)) (rows.getD j (0, none)))) 1 vals.length hne ?_ _
    (by rw [runTE_snoc _ _ _ hne']; exact h0.1) (fun j hj => ?_)).2 i hi
  · intro t st h1t ht hinv hvis
    cases t with
    | zero => exact absurd h1t (Nat.not_succ_le_zero 0)
    | succ t =>
      have ht1 : t + 1 < rows.length := hrl.symm ▸ ht
      have ht0 : t < rows.length := Nat.lt_of_succ_lt ht1
      have hsn := runTE_snoc decay rows t ht0
      obtain ⟨h1, h2, h3⟩ := tw_step k ln2 expf halflife decay hdec hdec0 vals.length times.length (arrOf vals .nan)
        (arrOf times 0) t _ (Int.natCast_succ t) st _ hinv
        (by rw [hsn, emaStepTimed_lastT, hrow t (Nat.lt_of_succ_lt ht)])
        (by rw [hvis t (Nat.lt_succ_self t), hsn, emaStepTimed_last, getD_eq_getElem _ _ ht0])
      rw [← hrow _ ht] at h1 h3
      rw [runTE_snoc _ _ _ ht1, getD_eq_getElem _ _ ht1]
      exact ⟨h1, fun j hj => h2 j (Int.ne_of_lt (Int.ofNat_lt.mpr hj)), h3⟩
  · obtain rfl : j = 0 := Nat.lt_one_iff.mp hj
    rw [getD_eq_getElem _ _ hne']
    refine Eq.trans ?_ h0.2
    cases (arrOf vals .nan 0).isNan <;> rfl

end GV.LoopBridge
