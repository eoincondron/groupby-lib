import GroupbyVerif.Lemmas.Imp
import GroupbyVerif.Lemmas.Fold

/-!
# Support lemmas for the loop bridges (`Generated/Loops.lean` = hand-written models)

A numpy array argument is the total function `arrOf l d` of a list; `fold_rel_map_cnt` carries a simulation relation through two
folds that walk the same index list; `effCodes` are the codes a row-selection kernel sees under a mask.  (The facts about the
translation's own primitives `normI`, `aset`, `rangeI` are in `Lemmas/Imp.lean`.)
-/

namespace GV

/-- the array view of a list (reads outside `[0, length)` give the default; the bridges never rely on them) -/
def arrOf {α : Type} (l : List α) (d : α) : Int → α := fun i => l.getD i.toNat d

@[simp] theorem arrOf_ofNat {α : Type} (l : List α) (d : α) (i : Nat) : arrOf l d (Int.ofNat i) = l.getD i d := by
  simp [arrOf]

@[simp] theorem arrOf_natCast {α : Type} (l : List α) (d : α) (i : Nat) : arrOf l d (i : Int) = l.getD i d := by
  simp [arrOf]

/-- simulation through two folds over images of the same index list, with a step counter in the relation (for
invariants such as "a counter is at most the number of iterations so far") -/
theorem fold_rel_map_cnt {σ τ ι α β : Type} (R : Nat → σ → τ → Prop) (P : ι → Prop) (a : ι → α) (b : ι → β)
    (f : σ → α → σ) (g : τ → β → τ)
    (hstep : ∀ c s t i, P i → R c s t → R (c + 1) (f s (a i)) (g t (b i))) :
    ∀ (is : List ι) (c : Nat) (s0 : σ) (t0 : τ), (∀ i ∈ is, P i) → R c s0 t0 →
      R (c + is.length) ((is.map a).foldl f s0) ((is.map b).foldl g t0) := by
  intro is c s0 t0 hP h0
  have h := foldl_inv (fun t s => R (c + t) s (((is.take t).map b).foldl g t0)) (fun s i => f s (a i)) is s0 h0
    fun t s ht hs => by
      rw [List.take_succ_eq_append_getElem ht, List.map_append, List.foldl_append]
      exact hstep _ _ _ _ (hP _ (List.getElem_mem ht)) hs
  rwa [List.take_length, ← List.foldl_map] at h

theorem fold_rel_map {σ τ ι α β : Type} (R : σ → τ → Prop) (P : ι → Prop) (a : ι → α) (b : ι → β)
    (f : σ → α → σ) (g : τ → β → τ)
    (hstep : ∀ s t i, P i → R s t → R (f s (a i)) (g t (b i))) :
    ∀ (is : List ι) (s0 : σ) (t0 : τ), (∀ i ∈ is, P i) → R s0 t0 →
      R ((is.map a).foldl f s0) ((is.map b).foldl g t0) :=
  fun is s0 t0 hP h0 => fold_rel_map_cnt (fun _ => R) P a b f g (fun _ => hstep) is 0 s0 t0 hP h0

/-- the codes a row-selection kernel effectively sees: a row that the mask drops behaves like a null-key row -/
def effCodes (masked : Bool) (codes : List Int) (msk : List Bool) : List Int :=
  (List.range codes.length).map fun i => if masked && !(msk.getD i true) then -1 else codes.getD i 0

theorem getD_eq_getElem {α : Type} (l : List α) (d : α) {i : Nat} (h : i < l.length) : l.getD i d = l[i] :=
  (List.getElem_eq_getD d).symm

theorem zipIdx_eq_map_range {α : Type} (l : List α) (d : α) :
    l.zipIdx = (List.range l.length).map (fun i => (l.getD i d, i)) := by
  apply List.ext_getElem
  · rw [List.length_zipIdx, List.length_map, List.length_range]
  · intro i h1 h2
    rw [List.length_zipIdx] at h1
    rw [List.getElem_zipIdx, List.getElem_map, List.getElem_range, Nat.zero_add, getD_eq_getElem l d h1]

theorem list_eq_map_range {α : Type} (l : List α) (d : α) :
    l = (List.range l.length).map (fun i => l.getD i d) := by
  apply List.ext_getElem
  · rw [List.length_map, List.length_range]
  · intro i h1 h2
    rw [List.getElem_map, List.getElem_range, getD_eq_getElem l d h1]

theorem zip_getD {α β : Type} (l : List α) (m : List β) (da : α) (db : β) (i : Nat) (h1 : i < l.length)
    (h2 : i < m.length) : (l.zip m).getD i (da, db) = (l.getD i da, m.getD i db) := by
  have h3 : i < (l.zip m).length := by rw [List.length_zip]; exact Nat.lt_min.mpr ⟨h1, h2⟩
  rw [getD_eq_getElem _ _ h3, List.getElem_zip, getD_eq_getElem l da h1, getD_eq_getElem m db h2]

theorem effCodes_unmasked (codes : List Int) (msk : List Bool) : effCodes false codes msk = codes := by
  unfold effCodes
  simpa using (list_eq_map_range codes 0).symm

@[simp] theorem effCodes_length (masked : Bool) (codes : List Int) (msk : List Bool) :
    (effCodes masked codes msk).length = codes.length := by simp [effCodes]

theorem effCodes_getD (masked : Bool) (codes : List Int) (msk : List Bool) (j : Nat) (hj : j < codes.length) (d : Int) :
    (effCodes masked codes msk).getD j d = if masked && !(msk.getD j true) then -1 else codes.getD j 0 := by
  rw [effCodes, List.getD_eq_getElem?_getD, List.getElem?_map, List.getElem?_range hj]
  rfl

theorem effCodes_zipIdx (masked : Bool) (codes : List Int) (msk : List Bool) :
    (effCodes masked codes msk).zipIdx =
      (List.range codes.length).map fun i => ((if masked && !(msk.getD i true) then -1 else codes.getD i 0), i) := by
  rw [zipIdx_eq_map_range _ 0, effCodes_length]
  refine List.map_congr_left fun i hi => ?_
  rw [effCodes_getD _ _ _ _ (List.mem_range.mp hi)]

end GV
