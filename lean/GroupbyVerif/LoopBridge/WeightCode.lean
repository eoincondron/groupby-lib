import GroupbyVerif.Generated.Loops
import GroupbyVerif.Model.Factorize
import GroupbyVerif.LoopBridge.Fold

/-!
# Bridge: the translated `_weight_code_sum` is the mixed-radix combination `weightCodeSum`

The source walks all but the last (code, weight) pair, returns `-1` from inside the loop at the first null code, then
tests the last code separately and adds it with weight one.  The model is the textbook mixed-radix value
`Σ code_j · Π shape[j+1:]` with `none` as soon as one code is null.  Both sides are brought to the same terms: some
code is `-1`, or the weighted sum `dotAll`.
-/

namespace GV.LoopBridge
open GV GV.Generated.Loops

/-- the weights `factorize_2d` passes: `Π shape[j+1:]` per key position -/
def weightsOf : List Nat → List Int
  | [] => []
  | _ :: ss => ((ss.foldl (· * ·) 1 : Nat) : Int) :: weightsOf ss

@[simp] theorem weightsOf_length (shape : List Nat) : (weightsOf shape).length = shape.length := by
  induction shape with
  | nil => rfl
  | cons s ss ih => simp [weightsOf, ih]

/-- `Σ code_j · weight_j` -/
def dotAll : List Int → List Int → Int
  | c :: cs, w :: ws => c * w + dotAll cs ws
  | _, _ => 0

theorem dotAll_append (a b c d : List Int) (h : a.length = c.length) :
    dotAll (a ++ b) (c ++ d) = dotAll a c + dotAll b d := by
  induction a generalizing c with
  | nil =>
    cases c with
    | nil => exact (Int.zero_add _).symm
    | cons _ _ => exact absurd h.symm (Nat.succ_ne_zero _)
  | cons x xs ih =>
    cases c with
    | nil => exact absurd h (Nat.succ_ne_zero _)
    | cons y ys => rw [List.cons_append, List.cons_append, dotAll, dotAll, ih ys (Nat.succ.inj h), Int.add_assoc]

/-- the model in terms of "some code is null" and the weighted sum -/
theorem weightCodeSum_char (cs : List Int) (shape : List Nat) (hlen : cs.length = shape.length) (hge : ∀ c ∈ cs, -1 ≤ c) :
    (cs.any (fun c => c == -1) = true → weightCodeSum cs shape = none) ∧
    (cs.any (fun c => c == -1) = false →
      ∃ v, weightCodeSum cs shape = some v ∧ (v : Int) = dotAll cs (weightsOf shape)) := by
  induction cs generalizing shape with
  | nil => simp [weightCodeSum, dotAll]
  | cons c cs ih =>
    cases shape with
    | nil => exact absurd hlen (Nat.succ_ne_zero _)
    | cons s ss =>
      have hc := hge c List.mem_cons_self
      obtain ⟨ih1, ih2⟩ := ih ss (Nat.succ.inj hlen) fun x hx => hge x (List.mem_cons_of_mem _ hx)
      simp only [weightCodeSum, List.any_cons, weightsOf, dotAll]
      by_cases hneg : c < 0
      · obtain rfl : c = -1 := by omega
        constructor
        · intro _
          exact if_pos hneg
        · intro h
          rw [beq_self_eq_true, Bool.true_or] at h
          exact Bool.noConfusion h
      · have hne : (c == -1) = false := beq_false_of_ne (by omega)
        simp only [hneg, if_false, hne, Bool.false_or]
        constructor
        · intro ha; simp [ih1 ha]
        · intro ha
          obtain ⟨v, hv, hvd⟩ := ih2 ha
          refine ⟨c.toNat * ss.foldl (· * ·) 1 + v, by simp [hv], ?_⟩
          have hct : ((c.toNat : Nat) : Int) = c := Int.toNat_of_nonneg (Int.not_lt.mp hneg)
          push_cast
          rw [hct, hvd]

theorem weightCodeSum_eq (cs : List Int) (shape : List Nat) (hlen : cs.length = shape.length) (hge : ∀ c ∈ cs, -1 ≤ c) :
    (match weightCodeSum cs shape with | none => (-1 : Int) | some v => (v : Int)) =
      (if cs.any (fun c => c == -1) then -1 else dotAll cs (weightsOf shape)) := by
  obtain ⟨h1, h2⟩ := weightCodeSum_char cs shape hlen hge
  cases ha : cs.any (fun c => c == -1) with
  | true => simp [h1 ha]
  | false =>
    obtain ⟨v, hv, hvd⟩ := h2 ha
    simp [hv, hvd]

theorem weightsOf_last (shape : List Nat) (h : shape ≠ []) :
    ∃ init, weightsOf shape = init ++ [1] ∧ init.length + 1 = shape.length := by
  induction shape with
  | nil => exact absurd rfl h
  | cons s ss ih =>
    cases ss with
    | nil => exact ⟨[], by simp [weightsOf], by simp⟩
    | cons t ts =>
      obtain ⟨init, hi, hl⟩ := ih (by simp)
      exact ⟨_ :: init, by simp only [weightsOf] at hi ⊢; rw [hi]; rfl, by simp at hl ⊢; omega⟩

theorem wcs_loop (k : Kind) (cs ws : List Int) (m : Nat) (hc : m ≤ cs.length) (hw : m ≤ ws.length) :
    let st := (rangeI (m : Int)).foldl (weight_code_sum_loop1_step k cs.length (arrOf cs 0) ws.length (arrOf ws 0)) ⟨0, false, none⟩
    if (cs.take m).any (fun c => c == -1) then st.done = true ∧ st.ret = some (-1)
    else st = ⟨dotAll (cs.take m) (ws.take m), false, none⟩ := by
  refine foldl_rangeI_inv (fun t (st : Weight_code_sum_loop1St) =>
    if (cs.take t).any (fun c => c == -1) then st.done = true ∧ st.ret = some (-1)
    else st = ⟨dotAll (cs.take t) (ws.take t), false, none⟩) _ m _ (by simp [dotAll]) (fun t st ht ih => ?_)
  have hct : t < cs.length := Nat.lt_of_lt_of_le ht hc
  have hwt : t < ws.length := Nat.lt_of_lt_of_le ht hw
  rw [List.take_succ_eq_append_getElem hct, List.take_succ_eq_append_getElem hwt, List.any_append,
    dotAll_append _ _ _ _ (by rw [List.length_take_of_le (Nat.le_of_lt hct), List.length_take_of_le (Nat.le_of_lt hwt)])]
  split at ih
  · -- returned already: the step leaves a `done` state alone
    next hany =>
    rw [weight_code_sum_loop1_step, if_pos ih.1, hany, Bool.true_or, if_pos rfl]
    exact ih
  · next hany =>
    subst ih
    simp only [weight_code_sum_loop1_step, normI_natCast, arrOf_natCast, getD_eq_getElem _ _ hct, getD_eq_getElem _ _ hwt,
      Bool.false_eq_true, if_false, Bool.eq_false_iff.mpr hany, Bool.false_or, List.any_cons, List.any_nil, Bool.or_false,
      beq_iff_eq, dotAll, Int.add_zero]
    by_cases hcm : cs[t] = -1
    · simp only [hcm, decide_true, if_true, and_self]
    · simp only [hcm, decide_false, Bool.false_eq_true, if_false]

/-- **`_weight_code_sum` is the mixed-radix combination `weightCodeSum`** (`-1` for "some key is null"), for the weights
`Π shape[j+1:]` that `factorize_2d` passes and codes that are `-1` or non-negative -/
theorem weight_code_sum_eq (k : Kind) (cs : List Int) (shape : List Nat) (hlen : cs.length = shape.length) (hm : cs ≠ [])
    (hge : ∀ c ∈ cs, -1 ≤ c) :
    let r := weight_code_sum k cs.length (arrOf cs 0) (weightsOf shape).length (arrOf (weightsOf shape) 0)
    r.2 = false ∧ r.1 = (match weightCodeSum cs shape with | none => (-1 : Int) | some v => (v : Int)) := by
  intro r
  have hsne : shape ≠ [] := by intro h; rw [h] at hlen; exact hm (List.length_eq_zero_iff.mp hlen)
  obtain ⟨winit, hws, hwl⟩ := weightsOf_last shape hsne
  obtain ⟨init, last, hcs⟩ : ∃ init last, cs = init ++ [last] := ⟨_, _, (List.dropLast_concat_getLast hm).symm⟩
  have hil : cs.length = init.length + 1 := by rw [hcs, List.length_append, List.length_singleton]
  have hiw : init.length = winit.length := Nat.succ.inj (hil.symm.trans (hlen.trans hwl.symm))
  have hic : init.length ≤ cs.length := by rw [hil]; exact Nat.le_succ _
  have hiws : init.length ≤ (weightsOf shape).length := by rw [weightsOf_length, ← hlen]; exact hic
  have hloop := wcs_loop k cs (weightsOf shape) init.length hic hiws
  have e : min ((cs.length : Int) - 1) (((weightsOf shape).length : Int) - 1) = ((init.length : Nat) : Int) := by
    rw [weightsOf_length, ← hlen, Int.min_self, hil, Int.natCast_succ, Int.add_sub_cancel]
  have hlastv : arrOf cs 0 (normI (cs.length : Int) (-1)) = last := by
    rw [hil, normI_neg_one, arrOf_natCast, hcs, getD_snoc, if_pos rfl]
  rw [weightCodeSum_eq cs shape hlen hge]
  simp only [r, weight_code_sum, e, hlastv]
  generalize (rangeI (init.length : Int)).foldl _ _ = st at hloop ⊢
  rw [hcs, hws, List.take_left' rfl, List.take_left' hiw.symm] at hloop
  rw [hcs, hws, List.any_append, dotAll_append _ _ _ _ hiw]
  split at hloop
  · next hany => simp only [hloop.2, hany, Bool.true_or, if_true, and_self]
  · next hany =>
    subst hloop
    simp only [Bool.eq_false_iff.mpr hany, Bool.false_or, List.any_cons, List.any_nil, Bool.or_false, beq_iff_eq, dotAll,
      Int.mul_one, Int.add_zero]
    by_cases hl : last = -1
    · simp only [hl, decide_true, if_true, and_self]
    · simp only [hl, decide_false, Bool.false_eq_true, if_false, and_self]

end GV.LoopBridge
