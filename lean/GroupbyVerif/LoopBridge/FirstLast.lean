import GroupbyVerif.LoopBridge.Fold
import GroupbyVerif.Generated.Loops
import GroupbyVerif.Lemmas.RowSel

/-!
# Bridge: the translated `_find_first_or_last_n` is `findFirstOrLastN` (`Model/RowSel.lean`)

The source keeps an `(ngroups, n)` matrix `out` and a counter per group; the model keeps, per group, the list of the
`n` slots.  `rowOf out g n` reads one matrix row as a list (`rowA` at `Int`).
-/

namespace GV.LoopBridge
open GV GV.Generated.Loops

/-- row `g` of an `(·, n)` matrix as a list -/
def rowOf (a : Int → Int → Int) (g : Int) (n : Nat) : List Int := (List.range n).map fun (j : Nat) => a g (j : Int)

/-- the model's slots of group `g` are row `g` of `out`, and the counters agree; `seen` stops at `n`, so it never
wraps -/
def FLRel (n : Nat) (st : Find_first_or_last_n_loop1St) (m : Int → FLSt) : Prop :=
  (∀ g : Int, 0 ≤ g → (m g).slots = rowA st.out' g n) ∧
  ∀ g : Int, 0 ≤ g → st.seen g = (m g).seen ∧ 0 ≤ (m g).seen ∧ (m g).seen ≤ n

theorem fl_step_rel (k : Kind) (codes : List Int) (msk : List Bool) (masked : Bool) (n : Nat) (hn : (n : Int) < 2 ^ 63)
    (ng ml : Int) (st : Find_first_or_last_n_loop1St) (m : Int → FLSt) (i : Nat) (h : FLRel n st m) :
    FLRel n
      (find_first_or_last_n_loop1_step k codes.length (arrOf codes 0) n ml masked (arrOf msk true) masked ng n ng st
        (i : Int))
      (gstep (flStep 64 n) m ((if masked && !(msk.getD i true) then -1 else codes.getD i 0), i)) := by
  simp only [find_first_or_last_n_loop1_step, normI_natCast, arrOf_natCast, ite_skip]
  generalize codes.getD i 0 = key
  generalize msk.getD i true = mb
  rcases eff_cases masked mb key with ⟨hc, hd⟩ | ⟨hc, hk0, hk, hm⟩
  · rw [gstep, if_pos hc, if_pos hd]; exact h
  · obtain ⟨hsl, hseen⟩ := h
    obtain ⟨hs, hs0, hsn⟩ := hseen _ hk0
    rw [gstep, hc, if_neg (Int.not_lt.mpr hk0)]
    simp only [hk, hm, Bool.or_false, Bool.false_eq_true, if_false, normI_nonneg _ _ hk0, normI_nonneg _ _ hs0, hs,
      flStep, decide_eq_true_eq]
    by_cases hlt : (m key).seen < n
    · -- the group still has a free slot: `seen` does not wrap, and slot `seen` of row `key` is written
      have hw : wrapS 64 ((m key).seen + 1) = (m key).seen + 1 :=
        wrapS_succ 64 (by decide) _ hs0 (Int.lt_of_le_of_lt (Int.add_one_le_of_lt hlt) hn)
      have hj : (m key).seen = ((m key).seen.toNat : Int) := (Int.toNat_of_nonneg hs0).symm
      simp only [hlt, if_true, hw]
      refine ⟨fun g h0 => ?_, forall_aset_upd (fun x (s : FLSt) => x = s.seen ∧ 0 ≤ s.seen ∧ s.seen ≤ n) hseen key
        ⟨rfl, Int.le_add_one hs0, Int.add_one_le_of_lt hlt⟩⟩
      unfold upd
      split
      · next e => rw [e, hj, setSlot_natCast, rowA_aset2_same, hsl _ hk0]
      · next e => rw [rowA_aset2_other _ _ _ _ _ _ e]; exact hsl g h0
    · simp only [hlt, if_false, upd_self]
      exact ⟨hsl, hseen⟩

theorem range_reverse_eq (n : Nat) : (List.range n).reverse = (List.range n).map fun j => n - 1 - j := by
  simpa only [← List.range_eq_range', Nat.zero_add] using List.reverse_range' (s := 0) (n := n)

/-- **`_find_first_or_last_n` is `findFirstOrLastN`** on the effective codes: row `g` of the returned matrix (after
the column reversal of the backward scan) is the model's slot list of group `g` -/
theorem find_first_or_last_n_eq (k : Kind) (codes : List Int) (msk : List Bool) (masked : Bool) (n : Nat)
    (hn : (n : Int) < 2 ^ 63) (ng ml : Int) (forward : Bool) (g : Int) (hg : 0 ≤ g) :
    let r := find_first_or_last_n k codes.length (arrOf codes 0) ng n masked ml (arrOf msk true) forward
    rowOf r.1 g n = findFirstOrLastN 64 (effCodes masked codes msk) n forward g ∧ r.2 = false := by
  intro r
  have hinit : FLRel n ⟨fun _ _ => -1, fun _ => 0⟩ (fun _ => flInit n) := by
    refine ⟨fun g _ => ?_, fun g _ => ⟨rfl, Int.le_refl 0, Int.natCast_nonneg n⟩⟩
    rw [rowA, List.map_const', List.length_range]; rfl
  have key := fun is : List Nat => fold_rel_map (FLRel n) (fun _ => True) (fun i : Nat => (i : Int))
    (fun i => ((if masked && !(msk.getD i true) then (-1 : Int) else codes.getD i 0), i)) _ _
    (fun s t i _ hr => fl_step_rel k codes msk masked n hn ng ml s t i hr)
    is _ _ (fun _ _ => trivial) hinit
  have hz := effCodes_zipIdx masked codes msk
  refine ⟨?_, rfl⟩
  cases forward with
  | true =>
    have hk := (key (List.range codes.length)).1 g hg
    simp only [r, find_first_or_last_n, findFirstOrLastN, scanRows, hz, groupFold, if_true, rangeI_natCast,
      Bool.not_true, Bool.false_eq_true, if_false]
    exact hk.symm
  | false =>
    have hk := (key (List.range codes.length).reverse).1 g hg
    simp only [r, find_first_or_last_n, findFirstOrLastN, scanRows, hz, groupFold, if_false, rangeI_natCast,
      Bool.not_false, if_true, Bool.false_eq_true, ← List.map_reverse]
    rw [hk]
    simp only [rowOf, rowA, ← List.map_reverse, range_reverse_eq, List.map_map]
    apply List.map_congr_left
    intro j hj
    have hj := List.mem_range.mp hj
    simp only [Function.comp]
    rw [Int.natCast_sub (Nat.le_sub_one_of_lt hj), Int.natCast_sub (Nat.one_le_of_lt hj)]
    rfl

end GV.LoopBridge
