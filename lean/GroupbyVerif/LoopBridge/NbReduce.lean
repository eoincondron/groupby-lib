import GroupbyVerif.LoopBridge.Fold
import GroupbyVerif.Generated.Loops
import GroupbyVerif.Model.Nanops

/-!
# Bridge: the translated `nanops._nb_reduce` (with `_get_first_non_null` and its numba overload) is `nbReduce`

`_get_first_non_null` returns from inside its loop: the translation carries a `done` flag and the returned pair.
The numba overload dispatches on the array dtype (float: the Python function, integer: a nested function returning
the int64 minimum as "no value", boolean: not translated - flagged).
-/

namespace GV.LoopBridge
open GV GV.Generated.Loops

theorem firstNonNull_eq (k : Kind) (l : List Val) (o : Nat) :
    firstNonNull k l o = if h : leadNulls k l < l.length then some (o + leadNulls k l, l[leadNulls k l]) else none := by
  induction l generalizing o with
  | nil => rfl
  | cons v vs ih =>
    rw [firstNonNull, leadNulls]
    simp only [List.length_cons]
    cases hv : isNull k v
    · rw [if_neg Bool.false_ne_true, if_neg Bool.false_ne_true, dif_pos (Nat.add_pos_right _ Nat.one_pos)]; rfl
    · rw [if_pos rfl, if_pos rfl, ih]
      by_cases hl : leadNulls k vs < vs.length
      · rw [dif_pos hl, dif_pos (Nat.add_lt_add_right hl 1), Nat.add_assoc, Nat.add_comm 1]; rfl
      · rw [dif_neg hl, dif_neg fun h => hl (Nat.lt_of_add_lt_add_right h)]

/-- a loop that returns at its first non-null cell (translated with the `done` flag) ends with the pair of cell
`leadNulls k l`, or as it started when every cell is null; `view` reads the fields `(done, ret)` of the loop state of
either overload -/
theorem first_non_null_loop {σ : Type} (view : σ → Bool × Option (Int × Val)) (step : σ → Int → σ) (k : Kind)
    (l : List Val) (d : Val) (s0 : σ) (h0 : view s0 = (false, none))
    (hstep : ∀ s (q : Nat), view (step s (q : Int)) = if (view s).1 then view s else
      if isNull k (l.getD q d) then (false, (view s).2) else (true, some ((q : Int), l.getD q d))) :
    view ((rangeI (l.length : Int)).foldl step s0)
      = if leadNulls k l < l.length then (true, some (((leadNulls k l : Nat) : Int), l.getD (leadNulls k l) d))
        else (false, none) := by
  refine foldl_rangeI_inv (fun t s => view s = if leadNulls k l < t then
    (true, some (((leadNulls k l : Nat) : Int), l.getD (leadNulls k l) d)) else (false, none)) step l.length s0
    (by simpa using h0) (fun t s ht h => ?_)
  rw [hstep, h]
  rcases Nat.lt_trichotomy (leadNulls k l) t with hlt | he | hgt
  · simp [hlt, Nat.lt_succ_of_lt hlt]
  · subst he
    simp only [Nat.lt_irrefl, if_false, Bool.false_eq_true, leadNulls_stop k l ht d, Nat.lt_succ_self, if_true]
  · have hnext : ¬ leadNulls k l < t + 1 := Nat.not_lt.mpr hgt
    simp only [Nat.lt_asymm hgt, if_false, Bool.false_eq_true, leadNulls_null k l t hgt d, if_true, hnext]

/-- **`_get_first_non_null` (as numba resolves it for non-boolean arrays) is `firstNonNull`**: position and value of the
first non-null cell; position `-1` when every cell is null -/
theorem get_first_non_null_eq (k : Kind) (hk : k ≠ .b) (l : List Val) (d : Val) :
    let r := get_first_non_null k l.length (arrOf l d)
    r.2 = false ∧
      (match firstNonNull k l 0 with
       | some (loc, v) => r.1 = ((loc : Int), v)
       | none => r.1.1 = -1) := by
  have hf := first_non_null_loop (fun s : First_non_null_float_loop1St => (s.done, s.ret))
    (first_non_null_float_loop1_step k l.length (arrOf l d)) k l d ⟨false, none⟩ rfl (fun s q => by
      simp only [first_non_null_float_loop1_step, normI_natCast, arrOf_natCast]
      generalize l.getD q d = v
      obtain ⟨dn, rt⟩ := s
      cases dn <;> cases isNull k v <;> rfl)
  have hi := first_non_null_loop (fun s : First_non_null_int_loop1St => (s.done, s.ret))
    (first_non_null_int_loop1_step k l.length (arrOf l d)) k l d ⟨false, none⟩ rfl (fun s q => by
      simp only [first_non_null_int_loop1_step, normI_natCast, arrOf_natCast]
      generalize l.getD q d = v
      obtain ⟨dn, rt⟩ := s
      cases dn <;> cases isNull k v <;> rfl)
  rw [firstNonNull_eq]
  by_cases hlt : leadNulls k l < l.length
  · simp only [hlt, if_true, Prod.mk.injEq] at hf hi
    cases k with
    | b => exact absurd rfl hk
    | f => simp [get_first_non_null, first_non_null_float, hf.2, List.getD_eq_getElem?_getD, hlt]
    | i w => simp [get_first_non_null, first_non_null_int, hi.2, List.getD_eq_getElem?_getD, hlt]
    | u w => simp [get_first_non_null, first_non_null_int, hi.2, List.getD_eq_getElem?_getD, hlt]
  · simp only [hlt, if_false, Prod.mk.injEq] at hf hi
    cases k with
    | b => exact absurd rfl hk
    | f => simp [get_first_non_null, first_non_null_float, hf.2, hlt]
    | i w => simp [get_first_non_null, first_non_null_int, hi.2, hlt]
    | u w => simp [get_first_non_null, first_non_null_int, hi.2, hlt]

theorem foldl_skipnull (k : Kind) (f : Val → Val → Val) (l : List Val) (x : Val) :
    l.foldl (fun acc v => if isNull k v then acc else f acc v) x = (nonNull k l).foldl f x := by
  rw [nonNull, List.foldl_filter]
  simp only [ite_bnot]

/-- a loop of `_nb_reduce` from row `a` on whose step applies `g` to the accumulator (the field `proj`) and the cell is
the fold of `g` over `l.drop a` -/
theorem nb_reduce_loop {σ : Type} (proj : σ → Val) (l : List Val) (d : Val) (a : Nat) (ha : a ≤ l.length)
    (s0 : σ) (step : σ → Int → σ) (g : Val → Val → Val)
    (hstep : ∀ s q, proj (step s q) = g (proj s) (arrOf l d (normI l.length q))) :
    proj ((rangeI2 (a : Int) (l.length : Int)).foldl step s0) = (l.drop a).foldl g (proj s0) :=
  fold_rangeI2_drop_rel (fun (s : σ) (b : Val) => proj s = b) l d a ha _ _
    (fun s t q _ hst => by rw [hstep, hst, normI_natCast, arrOf_natCast]) s0 (proj s0) rfl

/-- the same for a step that leaves the accumulator at a null cell -/
theorem nb_reduce_loop_skipnull {σ : Type} (proj : σ → Val) (k : Kind) (f : Val → Val → Val) (l : List Val) (d : Val)
    (a : Nat) (ha : a ≤ l.length) (s0 : σ) (step : σ → Int → σ)
    (hstep : ∀ s q, proj (step s q) =
      if isNull k (arrOf l d (normI l.length q)) then proj s else f (proj s) (arrOf l d (normI l.length q))) :
    proj ((rangeI2 (a : Int) (l.length : Int)).foldl step s0) = (nonNull k (l.drop a)).foldl f (proj s0) := by
  rw [← foldl_skipnull]
  exact nb_reduce_loop proj l d a ha s0 step _ hstep

/-- **`_nb_reduce` is `nbReduce`**: with an initial value, or on a non-empty non-boolean array without one (first
non-null cell as the seed when nulls are skipped, `arr[0]` otherwise, `arr[0]` returned when everything is null) -/
theorem nb_reduce_eq (k : Kind) (hk : k ≠ .b) (f : Val → Val → Val) (l : List Val) (d : Val) (skipna : Bool)
    (initial : Option Val) (hne : initial = none → l ≠ []) :
    let r := nb_reduce k f l.length (arrOf l d) skipna initial.isSome (initial.getD d)
    r.2 = false ∧ some r.1 = nbReduce k f l skipna initial := by
  -- `Generated` has six loops: the source tests `skipna` a second time under each branch of its first test, and the
  -- translator copies the continuation under both arms.  Loops 2 and 3 sit under the arm that cannot be taken.
  cases initial with
  | some init =>
    cases skipna
    · have h := nb_reduce_loop Nb_reduce_loop6St.out' l d 0 (Nat.zero_le _) ⟨init⟩
        (nb_reduce_loop6_step k f l.length (arrOf l d)) f fun _ _ => rfl
      exact ⟨rfl, congrArg some h⟩
    · have h := nb_reduce_loop_skipnull Nb_reduce_loop5St.out' k f l d 0 (Nat.zero_le _) ⟨init⟩
        (nb_reduce_loop5_step k f l.length (arrOf l d)) fun _ _ => apply_ite Nb_reduce_loop5St.out' _ _ _
      exact ⟨rfl, congrArg some h⟩
  | none =>
    obtain ⟨a0, rest, rfl⟩ := List.exists_cons_of_ne_nil (hne rfl)
    have e0 : arrOf (a0 :: rest) d (normI ((a0 :: rest).length : Int) 0) = a0 := rfl
    cases skipna
    · -- no null skipping: `arr[0]` is the seed, and the result when it is null
      simp only [nb_reduce, nbReduce, Option.isSome_none, Bool.not_false, if_true, Bool.false_eq_true, if_false, e0]
      cases hn : isNull k a0
      · have h := nb_reduce_loop Nb_reduce_loop4St.out' (a0 :: rest) d 1 (Nat.succ_le_succ (Nat.zero_le _)) ⟨a0⟩
          (nb_reduce_loop4_step k f _ (arrOf (a0 :: rest) d)) f fun _ _ => rfl
        exact ⟨rfl, congrArg some h⟩
      · exact ⟨rfl, rfl⟩
    · -- the seed is the first non-null cell; `arr[0]` is returned when there is none
      obtain ⟨hf2, hf1⟩ := get_first_non_null_eq k hk (a0 :: rest) d
      simp only [nb_reduce, nbReduce, Option.isSome_none, Bool.not_false, if_true, e0, hf2, Bool.not_true,
        Bool.or_false, decide_eq_true_eq]
      generalize get_first_non_null k ((a0 :: rest).length : Int) (arrOf (a0 :: rest) d) = g at hf1 ⊢
      cases hfnn : firstNonNull k (a0 :: rest) 0 with
      | none =>
        rw [hfnn] at hf1
        simp only [hf1, if_true, and_self]
      | some p =>
        obtain ⟨loc, v⟩ := p
        rw [hfnn] at hf1
        have hloc : loc < (a0 :: rest).length := by
          rw [firstNonNull_eq] at hfnn
          split at hfnn
          · next hl =>
            obtain ⟨rfl, -⟩ := Prod.mk.inj (Option.some.inj hfnn)
            exact Nat.zero_add _ ▸ hl
          · cases hfnn
        simp only [hf1, show ¬ ((loc : Int) = -1) by omega, if_false, true_and]
        have h := nb_reduce_loop_skipnull Nb_reduce_loop1St.out' k f (a0 :: rest) d (loc + 1) hloc ⟨v⟩
          (nb_reduce_loop1_step k f _ (arrOf (a0 :: rest) d)) fun _ _ => apply_ite Nb_reduce_loop1St.out' _ _ _
        exact congrArg some h
end GV.LoopBridge
