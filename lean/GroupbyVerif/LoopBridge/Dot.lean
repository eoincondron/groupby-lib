import GroupbyVerif.LoopBridge.Fold
import GroupbyVerif.Generated.Loops

/-!
# Bridge: the translated `_nb_dot` is the matrix-vector product, row by row

`a` is the list of columns (what `nb_dot` builds from an array or a frame), `b` the vector, `out` the accumulator
(the source passes zeros; the bridge holds for any initial content).  Every row is touched only by its own outer
iteration; inside it the columns are added from left to right.
-/

namespace GV.LoopBridge
open GV GV.Generated.Loops

/-- entry `(row r, column c)` of the matrix given by its columns -/
def matAt (a : List (List Val)) (c r : Nat) : Val := (a.getD c []).getD r .nan

/-- the accumulation of one row: `acc + a[c][r] * b[c]` over the columns from left to right -/
def dotRow (a : List (List Val)) (b : List Val) (r : Nat) (acc : Val) (ncols : Nat) : Val :=
  (List.range ncols).foldl (fun s c => Val.add s (Val.mul (matAt a c r) (b.getD c .nan))) acc

theorem dot_inner (k : Kind) (a : List (List Val)) (b : List Val) (olen : Int) (r : Nat) (m : Nat) (st : Nb_dot_loop2St) :
    ((rangeI (m : Int)).foldl (nb_dot_loop2_step k a b.length (arrOf b .nan) (r : Int) olen) st).out'
      = aset st.out' (r : Int) (dotRow a b r (st.out' (r : Int)) m) := by
  refine foldl_rangeI_inv (fun t (s : Nb_dot_loop2St) => s.out' = aset st.out' (r : Int) (dotRow a b r (st.out' (r : Int)) t))
    _ m st (by rw [dotRow, List.range_zero, List.foldl_nil, aset_self]) (fun t s _ h => ?_)
  simp only [nb_dot_loop2_step, normI_natCast, arrOf_natCast, Int.toNat_natCast, h, aset_same, aset_aset, dotRow,
    List.range_succ, List.foldl_append, List.foldl_cons, List.foldl_nil, matAt]

/-- **`_nb_dot` computes every row's dot product**: with `nrows = len(a[0])` rows, the cell of row `r < nrows` is the
initial cell plus `a[c][r] * b[c]` summed over the columns in order; cells beyond stay as they were; no error -/
theorem nb_dot_eq (k : Kind) (a : List (List Val)) (b : List Val) (olen : Nat) (out0 : Int → Val)
    (hrows : (a.getD 0 []).length ≤ olen) :
    let r := nb_dot k a b.length (arrOf b .nan) olen out0
    r.2 = false ∧ (∀ i : Nat, i < (a.getD 0 []).length → r.1 (i : Int) = dotRow a b i (out0 (i : Int)) b.length) ∧
      (∀ i : Nat, (a.getD 0 []).length ≤ i → r.1 (i : Int) = out0 (i : Int)) := by
  -- `hrows` is not used: the arrays are total functions.
  -- outer iteration `t` rewrites cell `t` only; the cells from `t` on still hold their initial content
  have h := foldl_rows (nb_dot_loop1_step k a b.length (arrOf b .nan) olen) (fun t : Nat => (t : Int))
    Nb_dot_loop1St.out' (fun t st => ∀ j : Nat, t ≤ j → st.out' (j : Int) = out0 (j : Int))
    (fun i => dotRow a b i (out0 (i : Int)) b.length) 0 (a.getD 0 []).length (Nat.zero_le _)
    (fun t st _ _ hinv _ => by
      have hs : (nb_dot_loop1_step k a b.length (arrOf b .nan) olen st t).out'
          = aset st.out' t (dotRow a b t (out0 t) b.length) := by
        simp only [nb_dot_loop1_step, dot_inner, hinv t (Nat.le_refl t)]
      refine ⟨fun j hj => ?_, fun j hj => ?_, ?_⟩
      · rw [hs, aset_other _ _ _ _ (Int.ne_of_gt (Int.ofNat_lt.mpr hj))]; exact hinv j (Nat.le_of_succ_le hj)
      · rw [hs, aset_other _ _ _ _ (Int.ne_of_lt (Int.ofNat_lt.mpr hj))]
      · rw [hs, aset_same])
    ⟨out0⟩ (fun _ _ => rfl) (fun _ hj => absurd hj (Nat.not_lt_zero _))
  rw [Nat.sub_zero, ← List.range_eq_range', ← rangeI_natCast] at h
  simp only [nb_dot, normI_zero, Int.toNat_zero]
  exact ⟨trivial, h.2, h.1⟩

/-- on integer-valued cells the accumulation is the ordinary sum of products -/
theorem dotRow_num (a : List (List Val)) (b : List Val) (r : Nat) (s0 : Int) (ncols : Nat) (x : Nat → Int) (y : Nat → Int)
    (ha : ∀ c, c < ncols → matAt a c r = .num (x c)) (hb : ∀ c, c < ncols → b.getD c .nan = .num (y c)) :
    dotRow a b r (.num s0) ncols = .num (s0 + ((List.range ncols).map fun c => x c * y c).sum) := by
  induction ncols with
  | zero => simp [dotRow]
  | succ m ih =>
    have := ih (fun c hc => ha c (Nat.lt_succ_of_lt hc)) (fun c hc => hb c (Nat.lt_succ_of_lt hc))
    unfold dotRow at this ⊢
    rw [List.range_succ, List.foldl_append, this, List.foldl_cons, List.foldl_nil, ha m (Nat.lt_succ_self m),
      hb m (Nat.lt_succ_self m), List.map_append, List.sum_append, List.map_cons, List.map_nil, List.sum_cons,
      List.sum_nil, Int.add_zero, ← Int.add_assoc]
    rfl -- `Val.add` and `Val.mul` on numbers

end GV.LoopBridge
