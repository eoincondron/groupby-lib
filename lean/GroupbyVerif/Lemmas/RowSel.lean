import GroupbyVerif.Model.RowSel
import GroupbyVerif.Model.Factorize
import GroupbyVerif.Lemmas.Fold
import GroupbyVerif.Lemmas.Imp

/-!
# Lemmas for the row-selection kernels (single group)

Run over the positions `ps` of one group, both kernels have a closed form: `nthRun_eq` (`_find_nth`: entry `n` of `ps`,
counter `ps.length`) and `flRun_eq` (`_find_first_or_last_n`: `flClosed`).  `scan_positions`: the rows of a group met
by a forward or a backward scan are `posOfGroup` or its reverse.

The model wraps the counter `seen` at a width `w` (`Generated.Constants.seenWidthNth`, `seenWidthFirstLast`: the width
of the source's array).  `_find_nth` counts every row of the group, so `nthRun_eq` bounds the number of rows;
`_find_first_or_last_n` stops counting at `n`, so `flRun_eq` bounds `n` only.
-/

namespace GV

theorem nthSpec_snoc (n : Nat) (done : List Nat) (p : Nat) :
    nthSpec n (done ++ [p]) = if done.length = n then (p : Int) else nthSpec n done := by
  unfold nthSpec
  rcases Nat.lt_trichotomy n done.length with h | rfl | h
  · rw [List.getElem?_append_left h, if_neg (Nat.ne_of_gt h)]
  · rw [List.getElem?_concat_length, if_pos rfl]
  · have hlen : (done ++ [p]).length ≤ n := by rw [List.length_append, List.length_singleton]; exact h
    rw [List.getElem?_eq_none hlen, List.getElem?_eq_none (Nat.le_of_lt h), if_neg (Nat.ne_of_lt h)]

theorem nthSpec_short (n : Nat) (done : List Nat) (h : done.length ≤ n) : nthSpec n done = -1 := by
  rw [nthSpec, List.getElem?_eq_none h]

theorem nthRun_eq (w : Nat) (hw : 0 < w) (n : Nat) (ps : List Nat) (hlen : (ps.length : Int) < 2 ^ (w - 1)) :
    ps.foldl (nthStep w n) nthInit = ⟨nthSpec n ps, ps.length, false⟩ := by
  refine foldl_hist_inv (fun done s => (done.length : Int) < 2 ^ (w - 1) → s = (⟨nthSpec n done, done.length, false⟩ : NthSt))
    _ _ (fun _ => rfl) (fun done s p ih h => ?_) ps hlen
  simp only [List.length_append, List.length_singleton, Int.natCast_add, Int.natCast_one] at h
  -- the counter does not wrap; the slot is written when the counter is `n`, and it was empty until then
  simp only [ih (Int.lt_trans (Int.lt_succ _) h), nthStep, wrapS_succ w hw _ (Int.natCast_nonneg _) h, nthSpec_snoc,
    List.length_append, List.length_singleton, Int.natCast_add, Int.natCast_one, Int.natCast_inj, Bool.false_or]
  by_cases he : done.length = n
  · simp [he, nthSpec_short n done (Nat.le_of_eq he)]
  · simp [he]

/-! ### first / last n -/

/-- no bound on `j`: a slot beyond the end is not written -/
theorem setSlot_natCast (slots : List Int) (j i : Nat) : setSlot slots (j : Int) i = slots.set j i := by
  rw [setSlot, normIdx, if_neg (Int.not_lt.mpr (Int.natCast_nonneg j)), if_neg (Int.not_lt.mpr (Int.natCast_nonneg j)),
    Int.toNat_natCast]

theorem setSlot_pad (n : Nat) (l : List Int) (i : Nat) (hl : l.length < n) :
    setSlot (padTo n l) (l.length : Int) i = padTo n (l ++ [(i : Int)]) := by
  obtain ⟨k, rfl⟩ := Nat.exists_eq_add_of_lt hl
  have hk : l.length + k + 1 - l.length = k + 1 := by rw [Nat.add_assoc, Nat.add_sub_cancel_left]
  have hk' : l.length + k + 1 - (l.length + 1) = k := by rw [Nat.add_right_comm, Nat.add_sub_cancel_left]
  -- the first of the `k + 1` padding cells is overwritten
  rw [setSlot_natCast, padTo, padTo, List.length_append, List.length_singleton, hk, hk',
    List.set_append_right _ _ (Nat.le_refl _), Nat.sub_self, List.replicate_succ, List.set_cons_zero, List.append_assoc]
  rfl

/-- the record of `_find_first_or_last_n` after the positions `done` of one group: the first `n` of them, padded with
`-1`, and the counter stopped at `n` -/
def flClosed (n : Nat) (done : List Nat) : FLSt :=
  { slots := padTo n ((done.take n).map Int.ofNat), seen := ((min done.length n : Nat) : Int) }

theorem flStep_closed (w : Nat) (hw : 0 < w) (n : Nat) (hn : (n : Int) < 2 ^ (w - 1)) (done : List Nat) (p : Nat) :
    flStep w n (flClosed n done) p = flClosed n (done ++ [p]) := by
  rw [flStep, flClosed, flClosed, List.length_append, List.length_singleton]
  by_cases hfull : done.length < n
  · -- a free slot: nothing has been cut off yet, the position goes into slot `done.length`, the counter cannot wrap
    have hset := setSlot_pad n (done.map Int.ofNat) p (by rwa [List.length_map])
    rw [List.length_map] at hset
    rw [Nat.min_eq_left (Nat.le_of_lt hfull), Nat.min_eq_left (Nat.succ_le_of_lt hfull), if_pos (Int.ofNat_lt.mpr hfull),
      List.take_of_length_le (Nat.le_of_lt hfull),
      List.take_of_length_le (by rw [List.length_append]; exact Nat.succ_le_of_lt hfull), hset,
      wrapS_succ w hw _ (Int.natCast_nonneg _) (Int.lt_of_le_of_lt (Int.ofNat_le.mpr (Nat.succ_le_of_lt hfull)) hn),
      List.map_append]
    rfl
  · -- both counters are `n`, so the test reads `n < n`
    have hge := Nat.le_of_not_lt hfull
    rw [Nat.min_eq_right hge, Nat.min_eq_right (Nat.le_succ_of_le hge), if_neg (Int.lt_irrefl _),
      List.take_append_of_le_length hge]

theorem flRun_eq (w : Nat) (hw : 0 < w) (n : Nat) (hn : (n : Int) < 2 ^ (w - 1)) (ps : List Nat) :
    ps.foldl (flStep w n) (flInit n) = flClosed n ps :=
  foldl_hist_inv (fun done s => s = flClosed n done) _ _ (by simp [flInit, flClosed, padTo])
    (fun done _ p ih => ih ▸ flStep_closed w hw n hn done p) ps

theorem scan_positions (codes : List Int) (forward : Bool) (g : Int) :
    (((scanRows codes forward).filter (fun r => r.1 = g)).map (·.2))
      = if forward then posOfGroup codes g else (posOfGroup codes g).reverse := by
  unfold scanRows posOfGroup
  cases forward <;> simp [List.filter_reverse, List.map_reverse]

/-- `posOfGroup` is `positionsOf` (`Model/Factorize.lean`) under another name: `mem_positionsOf` and
`C02.positionsOf_sorted` are about it -/
theorem posOfGroup_eq_positionsOf : posOfGroup = positionsOf := rfl

theorem posOfGroup_length_le (codes : List Int) (g : Int) : (posOfGroup codes g).length ≤ codes.length := by
  unfold posOfGroup
  rw [List.length_map]
  have := List.length_filter_le (fun p : Int × Nat => decide (p.1 = g)) codes.zipIdx
  simpa using this

end GV
