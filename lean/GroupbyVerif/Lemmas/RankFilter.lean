import GroupbyVerif.Model.Cumulative

/-! # Deleting rows a row-aligned kernel skips

A kept row moves to its rank among the kept rows, and the kept rows up to it are the kept part of the prefix; so a cell
that is a function of its row and of its group's selected values survives the deletion of the masked rows (C05) and of
the null-key rows (C06). -/

namespace GV

theorem filter_split_at {α : Type} (p : α → Bool) (l : List α) (i : Nat) (r : α) (hi : l[i]? = some r)
    (hp : p r = true) : l.filter p = (l.take i).filter p ++ r :: (l.drop (i + 1)).filter p := by
  obtain ⟨hlt, rfl⟩ := List.getElem?_eq_some_iff.mp hi
  conv => lhs; rw [← List.take_append_drop i l, List.drop_eq_getElem_cons hlt]
  rw [List.filter_append, List.filter_cons_of_pos hp]

theorem filter_at_rank {α : Type} (p : α → Bool) (l : List α) (i : Nat) (r : α) (hi : l[i]? = some r)
    (hp : p r = true) :
    (l.filter p)[((l.take i).filter p).length]? = some r ∧
      (l.filter p).take (((l.take i).filter p).length + 1) = (l.take (i + 1)).filter p ∧
      (l.filter p).take ((l.take i).filter p).length = (l.take i).filter p := by
  obtain ⟨hlt, hr⟩ := List.getElem?_eq_some_iff.mp hi
  rw [filter_split_at p l i r hi hp, List.take_succ_eq_append_getElem hlt, hr, List.filter_append,
    List.filter_cons_of_pos hp]
  exact ⟨by simp, by rw [List.take_length_add_append]; rfl, List.take_left ..⟩

theorem selVals_filter (p : CRow → Bool) (rows : List CRow) (g : Int)
    (hp : ∀ x, x.code = g → x.sel = true → p x = true) : selVals (rows.filter p) g = selVals rows g := by
  simp only [selVals, List.filter_filter]
  congr 1
  apply List.filter_congr
  intro x _
  by_cases h : x.code = g ∧ x.sel = true
  · simp [h, hp x h.1 h.2]
  · simp [h]

/-! ### columns back to rows

C05 / C06 speak of a list of rows and hand its columns to the bridge theorems, which rebuild rows index by index
(`LoopBridge.cumRows`, `LoopBridge.emaRows`). -/

theorem getD_map_of_getElem? {α β : Type} (f : α → β) (l : List α) (i : Nat) (a : α) (d : β) (h : l[i]? = some a) :
    (l.map f).getD i d = f a := by
  simp [List.getD_eq_getElem?_getD, List.getElem?_map, h]

theorem map_range_of_getElem? {α β : Type} (l : List α) (F : Nat → β) (G : α → β)
    (h : ∀ i a, l[i]? = some a → F i = G a) : (List.range l.length).map F = l.map G := by
  apply List.ext_getElem (by simp)
  intro i h1 _
  rw [List.getElem_map, List.getElem_map, List.getElem_range]
  exact h i _ (List.getElem?_eq_getElem (by simpa using h1))

theorem zip_fst_snd {α β : Type} (b : List (α × β)) : (b.map (·.1)).zip (b.map (·.2)) = b :=
  List.zip_map'.trans (List.map_id b)

end GV
