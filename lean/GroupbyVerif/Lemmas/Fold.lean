import GroupbyVerif.Model.Spec

/-!
# Folds: induction principles, the per-group fold, splitting

`foldl_inv` (an invariant indexed by the number of elements consumed) is the induction `foldl_hist_inv` and the loop
lemmas of `LoopBridge/Fold.lean` rest on; `foldl_chunks` is "chunked = whole" for every split.  `groupFold_spec`
reduces every per-group kernel to a fold over one group's rows.  The last part is `np.array_split`.
-/

namespace GV

theorem foldl_inv {σ ι : Type} (P : Nat → σ → Prop) (f : σ → ι → σ) (l : List ι) (s0 : σ) (h0 : P 0 s0)
    (hstep : ∀ t s (ht : t < l.length), P t s → P (t + 1) (f s l[t])) : P l.length (l.foldl f s0) := by
  induction l generalizing P s0 with
  | nil => exact h0
  | cons x xs ih =>
    exact ih (fun t => P (t + 1)) _ (hstep 0 s0 (Nat.zero_lt_succ _) h0) fun t s ht h =>
      hstep (t + 1) s (Nat.succ_lt_succ ht) h

theorem foldl_hist_inv {σ α : Type} (I : List α → σ → Prop) (f : σ → α → σ) (s₀ : σ) (h₀ : I [] s₀)
    (step : ∀ h s v, I h s → I (h ++ [v]) (f s v)) (l : List α) : I l (l.foldl f s₀) := by
  have h := foldl_inv (fun t s => I (l.take t) s) f l s₀ h₀ fun t s ht h => by
    rw [List.take_succ_eq_append_getElem ht]; exact step _ _ _ h
  rwa [List.take_length] at h

/-- induction over `l ++ [x]`: `foldl_hist_inv` with a trivial state -/
theorem list_reverse_induction {α : Type} (P : List α → Prop) (h0 : P [])
    (hs : ∀ l x, P l → P (l ++ [x])) : ∀ l, P l :=
  foldl_hist_inv (fun h (_ : Unit) => P h) (fun _ _ => ()) () h0 fun h _ v ih => hs h v ih

/-- a fold whose step leaves the state alone: a `while` that has ended, a `return` taken, an absorbing accumulator -/
theorem foldl_fixed {σ ι : Type} (f : σ → ι → σ) (s : σ) (h : ∀ x, f s x = s) (l : List ι) : l.foldl f s = s := by
  induction l with
  | nil => rfl
  | cons x xs ih => rw [List.foldl_cons, h, ih]

theorem foldl_sel_mem {α : Type} (comb : α → α → α) (hsel : ∀ a b, comb a b = a ∨ comb a b = b) (xs : List α) (a : α) :
    xs.foldl comb a ∈ a :: xs := by
  induction xs generalizing a with
  | nil => exact List.mem_cons_self ..
  | cons x xs ih =>
    rcases List.mem_cons.mp (ih (comb a x)) with h | h
    · rw [List.foldl_cons, h]
      rcases hsel a x with h2 | h2 <;> simp [h2]
    · exact List.mem_cons_of_mem _ (List.mem_cons_of_mem _ h)

/-- **chunked = whole**, for every split into chunks, without associativity or an identity.  In the block theorems `h` is
the single pass, `g` the pass over one block, `act` the merge, `Q` well-formedness of the values. -/
theorem foldl_chunks {α β M : Type} (act : M → β → M) (g : List α → β) (h : List α → M) (Q : List α → Prop)
    (hQ : ∀ xs ys, Q xs → Q ys → Q (xs ++ ys))
    (happ : ∀ xs ys, Q xs → Q ys → h (xs ++ ys) = act (h xs) (g ys))
    (pre : List α) (cs : List (List α)) (hpre : Q pre) (hcs : ∀ c ∈ cs, Q c) :
    (cs.map g).foldl act (h pre) = h (pre ++ cs.flatten) := by
  induction cs generalizing pre with
  | nil => simp
  | cons c cs ih =>
    have hc := hcs c List.mem_cons_self
    rw [List.map_cons, List.foldl_cons, ← happ pre c hpre hc,
      ih _ (hQ _ _ hpre hc) (fun d hd => hcs d (List.mem_cons_of_mem _ hd)), List.flatten_cons, List.append_assoc]

theorem groupFold_spec {σ α : Type} (f : σ → α → σ) (init : Int → σ) (rows : List (Int × α))
    (g : Int) (hg : 0 ≤ g) :
    groupFold f init rows g = ((rows.filter (fun r => r.1 = g)).map (·.2)).foldl f (init g) := by
  unfold groupFold
  induction rows generalizing init with
  | nil => rfl
  | cons r rs ih =>
    rw [List.foldl_cons, ih, List.filter_cons]
    by_cases h : r.1 = g
    · -- a row of group `g`: the state at `g` moves by `f`
      subst h
      have h0 : ¬ r.1 < 0 := Int.not_lt.mpr hg
      rw [if_pos (decide_eq_true rfl), List.map_cons, List.foldl_cons, gstep, if_neg h0, upd, if_pos rfl]
    · -- a row of another group, or with a null key: the state at `g` stays
      have hstay : gstep f init r g = init g := by
        rw [gstep]
        split
        · rfl
        · rw [upd, if_neg fun e => h e.symm]
      rw [if_neg (mt of_decide_eq_true h), hstay]

/-- the kernel at group `g` is the reducer folded over that group's values: other groups'
rows and rows with a negative code never enter -/
theorem groupByReduce_at (red : Red) (init : Val) (rows : List Row) (g : Int) (hg : 0 ≤ g) :
    groupByReduce red init rows g = runRed red init (valsOf rows g) := by
  unfold groupByReduce runRed valsOf
  exact groupFold_spec (pstep red) _ rows g hg

theorem valsOf_append (a b : List Row) (g : Int) : valsOf (a ++ b) g = valsOf a g ++ valsOf b g := by
  simp [valsOf, List.filter_append]

theorem valsOf_mem {rows : List Row} {g : Int} {v : Val} (h : v ∈ valsOf rows g) : ∃ r ∈ rows, r.1 = g ∧ r.2 = v := by
  obtain ⟨r, hr, rfl⟩ := List.mem_map.mp h
  obtain ⟨hr1, hr2⟩ := List.mem_filter.mp hr
  exact ⟨r, hr1, of_decide_eq_true hr2, rfl⟩

theorem valsOf_wf {k : Kind} {b : List Row} (h : ∀ r ∈ b, WF k r.2) (g : Int) : ∀ v ∈ valsOf b g, WF k v :=
  fun _ hv => let ⟨r, hr, _, e⟩ := valsOf_mem hv; e ▸ h r hr

theorem nonNull_append (k : Kind) (a b : List Val) : nonNull k (a ++ b) = nonNull k a ++ nonNull k b := by
  simp [nonNull, List.filter_append]

theorem filter_code_filter_nonneg {β : Type} (rows : List (Int × β)) (g : Int) (hg : 0 ≤ g) :
    (rows.filter (fun r => decide (0 ≤ r.1))).filter (fun r => r.1 = g) = rows.filter (fun r => r.1 = g) := by
  rw [List.filter_filter]
  refine List.filter_congr fun r _ => ?_
  by_cases h : r.1 = g
  · subst h; simp [hg]
  · simp [h]

/-- rows with a negative code are ignored: deleting them changes no group's result -/
theorem valsOf_filter_nonneg (rows : List Row) (g : Int) (hg : 0 ≤ g) :
    valsOf (rows.filter (fun r => 0 ≤ r.1)) g = valsOf rows g :=
  congrArg (List.map fun r : Row => r.2) (filter_code_filter_nonneg rows g hg)

theorem splitBy_flatten {α : Type} (xs : List α) (sizes : List Nat) :
    (splitBy xs sizes).flatten = xs.take sizes.sum := by
  induction sizes generalizing xs with
  | nil => simp [splitBy]
  | cons s ss ih =>
    simp only [splitBy, List.flatten_cons, ih, List.sum_cons]
    rw [List.take_add, List.take_drop]

theorem sum_range_split (k c r : Nat) :
    ((List.range k).map fun j => c + (if j < r then 1 else 0)).sum = k * c + min r k := by
  induction k with
  | zero => simp
  | succ k ih =>
    rw [List.range_succ, List.map_append, List.sum_append, ih, List.map_singleton, List.sum_singleton, Nat.succ_mul]
    by_cases h : k < r
    · rw [if_pos h, Nat.min_eq_right (Nat.le_of_lt h), Nat.min_eq_right h, Nat.add_add_add_comm]
    · have hle := Nat.le_of_not_lt h
      rw [if_neg h, Nat.min_eq_left hle, Nat.min_eq_left (Nat.le_succ_of_le hle), Nat.add_zero, Nat.add_right_comm]

theorem splitSizes_sum (n k : Nat) (hk : 0 < k) : (splitSizes n k).sum = n := by
  unfold splitSizes
  rw [sum_range_split]
  have h1 : n % k < k := Nat.mod_lt _ hk
  have h2 := Nat.div_add_mod n k
  rw [Nat.min_eq_left (by omega)]
  omega

/-- `np.array_split` loses and duplicates nothing: the blocks concatenate to the input -/
theorem arraySplit_flatten {α : Type} (xs : List α) (k : Nat) (hk : 0 < k) :
    (arraySplit xs k).flatten = xs := by
  unfold arraySplit
  rw [splitBy_flatten, splitSizes_sum _ _ hk, List.take_length]

end GV
