import GroupbyVerif.Lemmas.Fold

/-!
# Per-reducer facts

The single pass is the per-group definition, and the definition of a concatenation is the merge of the definitions of
the parts: proved on the closed forms, one lemma per shape of merge reducer (`sum`, the `nanR` selections, `last`).
Also here: `Kind.Supported`, the dtype classes the kernel theorems assume, and `CombOK`, what they ask of a combiner.
-/

namespace GV

/-- the dtype classes the library supports (numpy widths) -/
def Kind.Supported (k : Kind) : Prop :=
  k = .f ∨ k = .i 8 ∨ k = .i 16 ∨ k = .i 32 ∨ k = .i 64 ∨ k = .u 8 ∨ k = .u 16 ∨ k = .u 32 ∨ k = .u 64 ∨ k = .b

theorem wf_nonnull_num {k : Kind} {v : Val} (hw : WF k v) (hn : isNull k v = false) : ∃ n, v = .num n := by
  cases v with
  | num n => exact ⟨n, rfl⟩
  -- for `f` NaN is the null (`hn`), the other kinds exclude NaN (`hw`)
  | nan => cases k <;> simp [WF, isNull] at hw hn

theorem nonNull_nums {k : Kind} {vs : List Val} (hw : ∀ v ∈ vs, WF k v) :
    ∃ ns : List Int, nonNull k vs = ns.map Val.num ∧ ∀ n ∈ ns, isNull k (.num n) = false := by
  induction vs with
  | nil => exact ⟨[], rfl, nofun⟩
  | cons v vs ih =>
    obtain ⟨ns, hns, hnn⟩ := ih (fun w hw' => hw w (List.mem_cons_of_mem _ hw'))
    cases hv : isNull k v with
    | true => exact ⟨ns, by simp [nonNull, hv, ← hns], hnn⟩
    | false =>
      obtain ⟨n, rfl⟩ := wf_nonnull_num (hw v List.mem_cons_self) hv
      exact ⟨n :: ns, by simp [nonNull, hv, ← hns], by simpa [hv] using hnn⟩

/-- only `f` and `i 64` have nulls, and their fill value is the null -/
theorem isNull_nullValue_of_null {k : Kind} (hk : k.Supported) {v : Val} (hw : WF k v) (hn : isNull k v = true) :
    isNull k (nullValue k) = true := by
  cases k with
  | f => rfl
  | i w =>
    -- a cell that holds the int64 minimum needs 64 bits, and no supported width is larger
    cases v with
    | nan => simp [isNull] at hn
    | num n =>
      have hmin : n = minInt64 := by simpa [isNull] using hn
      have hwidth : w = 8 ∨ w = 16 ∨ w = 32 ∨ w = 64 := by simpa [Kind.Supported] using hk
      subst hmin
      rcases hwidth with rfl | rfl | rfl | rfl
      · exact absurd hw.1 (by decide)
      · exact absurd hw.1 (by decide)
      · exact absurd hw.1 (by decide)
      · rfl
  | u w => cases v <;> simp [isNull] at hn
  | b => cases v <;> simp [isNull] at hn

/-- what the merge proofs need from a combiner: it is associative and returns one of its two arguments - on numbers
only, since `vmaxC` / `vminC` are not associative across NaN -/
structure CombOK (comb : Val → Val → Val) : Prop where
  num_closed : ∀ a b : Int, ∃ c, comb (.num a) (.num b) = .num c ∧ (c = a ∨ c = b)
  assoc : ∀ a b c : Int, comb (comb (.num a) (.num b)) (.num c) = comb (.num a) (comb (.num b) (.num c))

theorem combOK_of_num (comb : Val → Val → Val) (op : Int → Int → Int)
    (h : ∀ a b, comb (.num a) (.num b) = .num (op a b)) (hsel : ∀ a b, op a b = a ∨ op a b = b)
    (hassoc : ∀ a b c, op (op a b) c = op a (op b c)) : CombOK comb :=
  ⟨fun a b => ⟨op a b, h a b, hsel a b⟩, fun a b c => by rw [h, h, h, h, hassoc]⟩

theorem vmaxC_num (a b : Int) : vmaxC (.num a) (.num b) = .num (max a b) := by
  by_cases h : b > a
  · simp only [vmaxC, Val.gt, h, decide_true, if_true, Int.max_eq_right (Int.le_of_lt h)]
  · simp only [vmaxC, Val.gt, h, decide_false, Bool.false_eq_true, if_false, Int.max_eq_left (Int.not_lt.mp h)]

theorem vminC_num (a b : Int) : vminC (.num a) (.num b) = .num (min a b) := by
  by_cases h : b < a
  · simp only [vminC, Val.lt, h, decide_true, if_true, Int.min_eq_right (Int.le_of_lt h)]
  · simp only [vminC, Val.lt, h, decide_false, Bool.false_eq_true, if_false, Int.min_eq_left (Int.not_lt.mp h)]

theorem vmaxC_ok : CombOK vmaxC := combOK_of_num _ max vmaxC_num (fun _ _ => Std.max_eq_or) Int.max_assoc

theorem vminC_ok : CombOK vminC := combOK_of_num _ min vminC_num (fun _ _ => Std.min_eq_or) Int.min_assoc

theorem vfirstC_ok : CombOK vfirstC := ⟨fun a _ => ⟨a, rfl, Or.inl rfl⟩, fun _ _ _ => rfl⟩

theorem CombOK.foldl_mem {comb : Val → Val → Val} (hc : CombOK comb) (x : Int) (xs : List Int) :
    ∃ m ∈ x :: xs, (xs.map Val.num).foldl comb (.num x) = .num m := by
  induction xs generalizing x with
  | nil => exact ⟨x, List.mem_cons_self, rfl⟩
  | cons z zs ih =>
    obtain ⟨c, hcc, hor⟩ := hc.num_closed x z
    obtain ⟨m, hm, hfold⟩ := ih c
    refine ⟨m, ?_, by rw [List.map_cons, List.foldl_cons, hcc, hfold]⟩
    simp only [List.mem_cons] at hm ⊢
    -- `m ∈ c :: zs`, and `c` is `x` or `z`
    rcases hor with rfl | rfl <;> rcases hm with h | h <;> simp [h]

theorem CombOK.foldl_assoc {comb : Val → Val → Val} (hc : CombOK comb) (a y : Int) (ys : List Int) :
    comb (.num a) ((ys.map Val.num).foldl comb (.num y)) = (ys.map Val.num).foldl comb (comb (.num a) (.num y)) := by
  induction ys generalizing y with
  | nil => rfl
  | cons z zs ih =>
    simp only [List.map_cons, List.foldl_cons]
    obtain ⟨c, hcc, _⟩ := hc.num_closed y z
    rw [hcc, ih, ← hcc, hc.assoc]

theorem CombOK.foldl_append_chunk {comb : Val → Val → Val} (hc : CombOK comb) (x : Int) (xs : List Int) (y : Int)
    (ys : List Int) :
    ((xs ++ y :: ys).map Val.num).foldl comb (.num x)
      = comb ((xs.map Val.num).foldl comb (.num x)) ((ys.map Val.num).foldl comb (.num y)) := by
  obtain ⟨m, -, hm⟩ := hc.foldl_mem x xs
  rw [List.map_append, List.foldl_append, hm, List.map_cons, List.foldl_cons, hc.foldl_assoc m y ys]

theorem Val.add_assoc (a b c : Val) : (a.add b).add c = a.add (b.add c) := by
  cases a <;> cases b <;> cases c <;> simp [Val.add, Int.add_assoc]

theorem Val.zero_add (a : Val) : (Val.num 0).add a = a := by
  cases a <;> simp [Val.add]

theorem runRed_eq_of_step (red : Red) (init : Val) (F : List Val → Partial) (h0 : F [] = (init, 0))
    (hs : ∀ xs v, pstep red (F xs) v = F (xs ++ [v])) (vs : List Val) : runRed red init vs = F vs :=
  foldl_hist_inv (fun h s => s = F h) (pstep red) (init, 0) h0.symm (fun h _ v ih => ih ▸ hs h v) vs

theorem accOf_snoc (comb : Val → Val → Val) (pre : Val → Val) (init : Val) (xs : List Val) (v : Val) :
    accOf comb pre init (xs ++ [v]) = if xs = [] then pre v else comb (accOf comb pre init xs) v := by
  cases xs with
  | nil => simp [accOf]
  | cons x xs => simp [accOf, List.foldl_append]

theorem runRed_nanR (k : Kind) (comb : Val → Val → Val) (pre : Val → Val) (init : Val) (vs : List Val) :
    runRed (nanR k comb pre) init vs =
      (accOf comb pre init (nonNull k vs), ((nonNull k vs).length : Int)) := by
  apply runRed_eq_of_step _ _ (fun vs => (accOf comb pre init (nonNull k vs), ((nonNull k vs).length : Int)))
  · simp [nonNull, accOf]
  · intro xs v
    rw [nonNull_append]
    cases hn : isNull k v
    · have hv : nonNull k [v] = [v] := by simp [nonNull, hn]
      rw [hv, accOf_snoc]
      by_cases he : nonNull k xs = [] <;> simp [pstep, nanR, hn, he]
    · simp [pstep, nanR, hn, nonNull]

theorem foldl_add_zero (x : Val) (xs : List Val) : xs.foldl Val.add ((Val.num 0).add x) = xs.foldl Val.add x := by
  rw [Val.zero_add]

theorem accOf_add (nn : List Val) : accOf Val.add id (.num 0) nn = sumVals nn := by
  cases nn with
  | nil => rfl
  | cons x xs => simp [accOf, sumVals, Val.zero_add]

theorem accOf_addSq (nn : List Val) : accOf vaddSq Val.sq (.num 0) nn = sumSqVals nn := by
  cases nn with
  | nil => rfl
  | cons x xs => simp [accOf, sumSqVals, vaddSq, Val.zero_add]

theorem accOf_first (init : Val) (nn : List Val) : accOf vfirstC id init nn = nn.head?.getD init := by
  cases nn with
  | nil => rfl
  | cons x xs => simp [accOf, foldl_fixed vfirstC x fun _ => rfl]

theorem runRed_sum (k : Kind) (vs : List Val) :
    runRed (Scalar.sum k) (.num 0) vs = (sumVals vs, (vs.length : Int)) := by
  apply runRed_eq_of_step _ _ (fun vs => (sumVals vs, (vs.length : Int)))
  · simp [sumVals]
  · intro xs v
    by_cases he : xs = []
    · subst he; simp [pstep, Scalar.sum, sumVals, Val.zero_add]
    · have hl : ((xs.length : Int) != 0) = true := by
        have : xs.length ≠ 0 := by simpa [List.length_eq_zero_iff] using he
        simp; omega
      simp [pstep, Scalar.sum, hl, sumVals, List.foldl_append]

theorem runRed_count (k : Kind) (vs : List Val) :
    runRed (Scalar.count k) (.num 0) vs = (.num vs.length, (vs.length : Int)) := by
  apply runRed_eq_of_step _ _ (fun vs => (Val.num vs.length, (vs.length : Int)))
  · simp
  · intro xs v; simp [pstep, Scalar.count, Val.ofInt]

theorem runRed_nancount (k : Kind) (vs : List Val) :
    runRed (Scalar.nancount k) (.num 0) vs = (.num (nonNull k vs).length, ((nonNull k vs).length : Int)) := by
  apply runRed_eq_of_step _ _
    (fun vs => (Val.num (nonNull k vs).length, ((nonNull k vs).length : Int)))
  · simp [nonNull]
  · intro xs v
    rw [nonNull_append]
    cases hn : isNull k v <;> simp [pstep, Scalar.nancount, hn, nonNull, Val.ofInt]

theorem runRed_last (k : Kind) (vs : List Val) :
    runRed (Scalar.last k) (nullValue k) vs =
      ((nonNull k vs).getLast?.getD (nullValue k), (vs.length : Int)) := by
  apply runRed_eq_of_step _ _
    (fun vs => ((nonNull k vs).getLast?.getD (nullValue k), (vs.length : Int)))
  · simp [nonNull]
  · intro xs v
    rw [nonNull_append]
    cases hn : isNull k v <;> simp [pstep, Scalar.last, hn, nonNull]

/-- the reducer table read off once, so that no later proof unfolds `modelReducers` (a lookup decides up to ten string
equalities) -/
theorem Kernel.red_model (kn : Kernel) (k : Kind) : kn.red modelReducers k = match kn with
    | .size => Scalar.count k | .count => Scalar.nancount k | .sum => Scalar.nansum k | .sumNoSkip => Scalar.sum k
    | .sumSquares => Scalar.nansum_squares k | .min => Scalar.nanmin k | .max => Scalar.nanmax k
    | .first => Scalar.first k | .last => Scalar.last k := by
  cases kn <;> rfl

/-- the merge reducer is a single-pass reducer: plain `sum` for the counting and summing kernels, the kernel's own
otherwise (`rfl` per kernel: both sides are `R k` of the same literal) -/
theorem Kernel.mergeRed_eq_red (kn : Kernel) (R : Kind → String → Red) (k : Kind) :
    kn.mergeRed R k = (match kn with
      | .size | .count | .sum | .sumNoSkip | .sumSquares => Kernel.sumNoSkip
      | other => other).red R k := by
  cases kn <;> rfl

theorem runRed_eq_spec (kn : Kernel) (k : Kind) (vs : List Val) :
    runRed (kn.red modelReducers k) (kn.init k) vs = specKernel kn k vs := by
  rw [Kernel.red_model]
  cases kn <;> simp only [Kernel.init, specKernel]
  case size => exact runRed_count k vs
  case count => exact runRed_nancount k vs
  case sum => rw [← accOf_add]; exact runRed_nanR ..
  case sumNoSkip => exact runRed_sum k vs
  case sumSquares => rw [← accOf_addSq]; exact runRed_nanR ..
  case min => exact runRed_nanR ..
  case max => exact runRed_nanR ..
  case first => rw [← accOf_first]; exact runRed_nanR ..
  case last => exact runRed_last k vs

theorem mergePair_zero (red : Red) (p : Partial) (v : Val) : mergePair red p (v, 0) = p := rfl

theorem mergePair_ne_zero (red : Red) (p q : Partial) (h : q.2 ≠ 0) :
    mergePair red p q = ((red p.1 q.1 p.2).1, p.2 + q.2) := if_neg h

theorem nanR_nonnull {k : Kind} {v : Val} (h : isNull k v = false) (comb : Val → Val → Val) (pre : Val → Val)
    (cur : Val) (c : Int) :
    nanR k comb pre cur v c = if c = 0 then (pre v, c + 1) else (comb cur v, c + 1) := by
  by_cases hc : c = 0 <;> simp [nanR, h, hc]

theorem sumVals_append (a b : List Val) : sumVals (a ++ b) = (sumVals a).add (sumVals b) := by
  suffices H : ∀ x, b.foldl Val.add x = x.add (sumVals b) by simp [sumVals, List.foldl_append, H (a.foldl _ _)]
  unfold sumVals
  induction b with
  | nil => intro x; cases x <;> simp [Val.add]
  | cons v b ih => intro x; rw [List.foldl_cons, List.foldl_cons, ih, ih (Val.add _ v), Val.zero_add, Val.add_assoc]

theorem sumSqVals_eq (vs : List Val) : sumSqVals vs = sumVals (vs.map Val.sq) := by
  simp only [sumSqVals, sumVals, List.foldl_map]; rfl

/-- `S`: the count, the sum or the sum of squares -/
theorem mergePair_sum_append (k : Kind) (S : List Val → Val) (h0 : S [] = .num 0)
    (hadd : ∀ a b, S (a ++ b) = (S a).add (S b)) (a b : List Val) :
    (S (a ++ b), ((a ++ b).length : Int)) = mergePair (Scalar.sum k) (S a, a.length) (S b, b.length) := by
  cases b with
  | nil => simp [mergePair_zero]
  | cons y ys =>
    rw [mergePair_ne_zero _ _ _ (Int.natCast_ne_zero.mpr (Nat.succ_ne_zero _)), hadd, List.length_append, Int.natCast_add]
    cases a with
    | nil => simp [Scalar.sum, h0, Val.zero_add]
    | cons x xs =>
      have : ((xs.length : Int) + 1 != 0) = true := by simp; omega
      simp [Scalar.sum, this]

/-- `ha` asks for numbers, `hb` for non-null numbers: `nanR` tests `isNull` on the right accumulator only -/
theorem mergePair_sel_append (k : Kind) {comb : Val → Val → Val} (hc : CombOK comb) (init : Val) (a b : List Val)
    (ha : ∃ ns : List Int, a = ns.map .num)
    (hb : ∃ ns : List Int, b = ns.map .num ∧ ∀ n ∈ ns, isNull k (.num n) = false) :
    (accOf comb id init (a ++ b), ((a ++ b).length : Int))
      = mergePair (nanR k comb id) (accOf comb id init a, a.length) (accOf comb id init b, b.length) := by
  obtain ⟨a, rfl⟩ := ha
  obtain ⟨b, rfl, hb⟩ := hb
  cases b with
  | nil => simp [mergePair_zero]
  | cons y ys =>
    obtain ⟨m, hm, hq⟩ := hc.foldl_mem y ys
    have hq' : accOf comb id init ((y :: ys).map .num) = .num m := hq
    rw [mergePair_ne_zero _ _ _ (Int.natCast_ne_zero.mpr (Nat.succ_ne_zero _)), List.length_append, Int.natCast_add, hq',
      nanR_nonnull (hb m hm)]
    cases a with
    | nil => rw [List.map_nil, List.nil_append, hq']; rfl
    | cons x xs =>
      have : ((((x :: xs).map Val.num).length : Nat) : Int) ≠ 0 := Int.natCast_ne_zero.mpr (Nat.succ_ne_zero _)
      rw [if_neg this, ← hq, ← List.map_append]
      exact congrArg (·, _) (hc.foldl_append_chunk x xs y ys)

theorem mergePair_last_append (k : Kind) (hk : k.Supported) (a b : List Val) (hb : ∀ v ∈ b, WF k v) :
    ((nonNull k (a ++ b)).getLast?.getD (nullValue k), ((a ++ b).length : Int))
      = mergePair (Scalar.last k) ((nonNull k a).getLast?.getD (nullValue k), a.length)
          ((nonNull k b).getLast?.getD (nullValue k), b.length) := by
  cases b with
  | nil => simp [mergePair_zero, nonNull]
  | cons y ys =>
    rw [mergePair_ne_zero _ _ _ (Int.natCast_ne_zero.mpr (Nat.succ_ne_zero _)), nonNull_append, List.getLast?_append,
      List.length_append, Int.natCast_add]
    cases h : (nonNull k (y :: ys)).getLast? with
    | some z =>
      -- the last non-null value of `b` is not null
      have hz : isNull k z = false := by simpa [nonNull] using (List.mem_filter.mp (List.mem_of_getLast? h)).2
      simp [Scalar.last, hz]
    | none =>
      -- `b` is all null and not empty, so the kind has a null and the fill value is it
      have hy : isNull k y = true := by
        have : y ∉ nonNull k (y :: ys) := by rw [List.getLast?_eq_none_iff.mp h]; simp
        simpa [nonNull] using this
      simp [Scalar.last, isNull_nullValue_of_null hk (hb y List.mem_cons_self) hy]

theorem specKernel_append (kn : Kernel) (k : Kind) (hk : k.Supported) (a b : List Val)
    (ha : ∀ v ∈ a, WF k v) (hb : ∀ v ∈ b, WF k v) :
    specKernel kn k (a ++ b) = mergePair (kn.mergeRed modelReducers k) (specKernel kn k a) (specKernel kn k b) := by
  have hlen : ∀ l l' : List Val, Val.num ((l ++ l').length : Nat) = (Val.num l.length).add (.num l'.length) := by
    intro l l'; simp [Val.add]
  have hna : ∃ ns : List Int, nonNull k a = ns.map .num := (nonNull_nums ha).imp fun _ h => h.1
  have hnb := nonNull_nums hb
  rw [Kernel.mergeRed_eq_red, Kernel.red_model]
  cases kn <;> simp only [specKernel, nonNull_append]
  case size => exact mergePair_sum_append k (fun l => .num l.length) rfl hlen a b
  case count => exact mergePair_sum_append k (fun l => .num l.length) rfl hlen _ _
  case sum => exact mergePair_sum_append k sumVals rfl sumVals_append _ _
  case sumNoSkip => exact mergePair_sum_append k sumVals rfl sumVals_append a b
  case sumSquares =>
    exact mergePair_sum_append k sumSqVals rfl (by intro l l'; simp [sumSqVals_eq, sumVals_append]) _ _
  case min => exact mergePair_sel_append k vminC_ok _ _ _ hna hnb
  case max => exact mergePair_sel_append k vmaxC_ok _ _ _ hna hnb
  case first => simp only [← accOf_first]; exact mergePair_sel_append k vfirstC_ok _ _ _ hna hnb
  case last => rw [← nonNull_append]; exact mergePair_last_append k hk a b hb

theorem runRed_append (kn : Kernel) (k : Kind) (hk : k.Supported) (a b : List Val)
    (ha : ∀ v ∈ a, WF k v) (hb : ∀ v ∈ b, WF k v) :
    runRed (kn.red modelReducers k) (kn.init k) (a ++ b)
      = mergePair (kn.mergeRed modelReducers k) (runRed (kn.red modelReducers k) (kn.init k) a)
          (runRed (kn.red modelReducers k) (kn.init k) b) := by
  simp only [runRed_eq_spec]
  exact specKernel_append kn k hk a b ha hb

theorem groupByReduce_blocks (kn : Kernel) (k : Kind) (hk : k.Supported) (g : Int) (hg : 0 ≤ g) (b0 : List Row)
    (bs : List (List Row)) (h0 : ∀ r ∈ b0, WF k r.2) (hbs : ∀ b ∈ bs, ∀ r ∈ b, WF k r.2) :
    (bs.map fun b => groupByReduce (kn.red modelReducers k) (kn.init k) b g).foldl
        (mergePair (kn.mergeRed modelReducers k)) (groupByReduce (kn.red modelReducers k) (kn.init k) b0 g)
      = groupByReduce (kn.red modelReducers k) (kn.init k) (b0 ++ bs.flatten) g :=
  foldl_chunks _ _ (fun b => groupByReduce (kn.red modelReducers k) (kn.init k) b g) (fun b => ∀ r ∈ b, WF k r.2)
    (fun _ _ hx hy => List.forall_mem_append.mpr ⟨hx, hy⟩)
    (fun a b ha hb => by
      simp only [groupByReduce_at _ _ _ _ hg, valsOf_append]
      exact runRed_append kn k hk _ _ (valsOf_wf ha g) (valsOf_wf hb g)) b0 bs h0 hbs

end GV
