import GroupbyVerif.Model.Factorize

/-!
# Lemmas about first-appearance factorization

`dedup` keeps the first occurrences, so a list grows its labels at the end (`dedup_snoc`) and `List.idxOf` numbers them
in order of first appearance (`idxOf_first`, `idxOf_snoc_self`: what the combine bridge rests on).  `codeOf` is an
injection of the keys whose labels are listed (null included), with the labels as left inverse.
-/

namespace GV

variable {κ : Type} [DecidableEq κ]

theorem mem_dedup (x : κ) (xs : List κ) : x ∈ dedup xs ↔ x ∈ xs := by
  induction xs with
  | nil => simp [dedup]
  | cons y ys ih =>
    simp only [dedup, List.mem_cons, List.mem_filter, ih]
    by_cases h : x = y <;> simp [h]

theorem dedup_snoc (xs : List κ) (x : κ) :
    dedup (xs ++ [x]) = if x ∈ xs then dedup xs else dedup xs ++ [x] := by
  induction xs with
  | nil => simp [dedup]
  | cons a xs ih =>
    simp only [List.cons_append, dedup, ih]
    by_cases hx : x ∈ xs
    · simp [hx]
    · simp only [hx, if_false, List.filter_append]
      by_cases ha : x = a
      · subst ha; simp
      · simp [ha, hx]

theorem nodup_dedup (xs : List κ) : (dedup xs).Nodup := by
  induction xs with
  | nil => simp [dedup]
  | cons y ys ih =>
    simp only [dedup]
    rw [List.nodup_cons]
    constructor
    · simp [List.mem_filter]
    · exact List.Nodup.sublist List.filter_sublist ih

theorem idxOf_inj {l : List κ} {a b : κ} (ha : a ∈ l) (hb : b ∈ l) (h : l.idxOf a = l.idxOf b) : a = b := by
  have h1 := List.getElem_idxOf (List.idxOf_lt_length_of_mem ha)
  have h2 := List.getElem_idxOf (List.idxOf_lt_length_of_mem hb)
  rw [← h1, ← h2]
  congr 1

theorem idxOf_first {α : Type} [BEq α] [LawfulBEq α] (l : List α) (t : Nat) (h : t < l.length) (hn : l[t] ∉ l.take t) :
    l.idxOf l[t] = t := by
  conv => lhs; arg 2; rw [← List.take_append_drop t l, List.drop_eq_getElem_cons h]
  rw [List.idxOf_append, if_neg hn, List.idxOf_cons_self, List.length_take, Nat.min_eq_left (Nat.le_of_lt h),
    Nat.zero_add]

theorem idxOf_snoc_self {L : List κ} {key : κ} (hm : key ∉ L) : (L ++ [key]).idxOf key = L.length := by
  rw [List.idxOf_append, if_neg hm, List.idxOf_cons_self, Nat.zero_add]

/-- looking an element up by its index in a list extended by one new element (`f` of the index, `d` when absent) -/
theorem ite_mem_idxOf_snoc {β : Type} (f : Nat → β) (d : β) {L : List κ} {key : κ} (hm : key ∉ L) (x : κ) :
    (if x ∈ L ++ [key] then f ((L ++ [key]).idxOf x) else d) =
      if x = key then f L.length else if x ∈ L then f (L.idxOf x) else d := by
  by_cases e : x = key
  · subst e
    rw [if_pos rfl, if_pos (List.mem_append_right _ (List.mem_singleton_self x)), idxOf_snoc_self hm]
  · rw [if_neg e]
    by_cases hx : x ∈ L
    · rw [if_pos hx, if_pos (List.mem_append_left _ hx), List.idxOf_append, if_pos hx]
    · rw [if_neg hx, if_neg fun h => (List.mem_append.mp h).elim hx fun h => e (List.mem_singleton.mp h)]

theorem mem_labels {keys : List (Option κ)} {x : κ} : x ∈ (factorizeFirst keys).2 ↔ some x ∈ keys := by
  simp [factorizeFirst, mem_dedup, List.mem_filterMap]

theorem codeOf_neg_iff (labels : List κ) (key : Option κ) : codeOf labels key < 0 ↔ key = none := by
  cases key <;> simp [codeOf]

theorem codeOf_eq_neg_one_iff (labels : List κ) (key : Option κ) : codeOf labels key = -1 ↔ key = none := by
  cases key <;> simp [codeOf]

theorem codeOf_some {labels : List κ} {x : κ} (hx : x ∈ labels) :
    codeOf labels (some x) = (labels.idxOf x : Nat) ∧ labels.idxOf x < labels.length ∧ labels[labels.idxOf x]? = some x :=
  ⟨rfl, List.idxOf_lt_length_of_mem hx, by simp [List.getElem?_eq_getElem (List.idxOf_lt_length_of_mem hx)]⟩

theorem codeOf_range {labels : List κ} {key : Option κ} (h : ∀ x, key = some x → x ∈ labels) :
    -1 ≤ codeOf labels key ∧ codeOf labels key < labels.length := by
  cases key with
  | none => simp only [codeOf]; omega
  | some x => have := codeOf_some (h x rfl); omega

theorem codeOf_inj (labels : List κ) (a b : Option κ) (ha : ∀ x, a = some x → x ∈ labels) (hb : ∀ x, b = some x → x ∈ labels) :
    codeOf labels a = codeOf labels b ↔ a = b := by
  refine ⟨fun h => ?_, fun h => h ▸ rfl⟩
  cases a with
  | none => exact ((codeOf_eq_neg_one_iff labels b).mp h.symm).symm
  | some x =>
    cases b with
    | none => exact (codeOf_eq_neg_one_iff labels (some x)).mp h
    | some y => rw [idxOf_inj (ha x rfl) (hb y rfl) (Int.natCast_inj.mp h)]

theorem codeOf_eq_ofNat (labels : List κ) (hnd : labels.Nodup) (ky : Option κ)
    (g : Nat) (hg : g < labels.length) : codeOf labels ky = Int.ofNat g ↔ ky = some labels[g] := by
  cases ky with
  | none => simp [codeOf]
  | some x =>
    simp only [codeOf, Option.some.injEq]
    constructor
    · intro h
      obtain rfl : labels.idxOf x = g := Int.ofNat.inj h
      simp
    · rintro rfl
      exact congrArg Int.ofNat (hnd.idxOf_getElem g hg)

theorem mem_positionsOf (codes : List Int) (g : Int) (i : Nat) : i ∈ positionsOf codes g ↔ codes[i]? = some g := by
  simp only [positionsOf, List.mem_map, List.mem_filter, decide_eq_true_eq, Prod.exists, List.mk_mem_zipIdx_iff_getElem?]
  exact ⟨fun ⟨c, j, ⟨h, hc⟩, hj⟩ => hj ▸ hc ▸ h, fun h => ⟨g, i, ⟨h, rfl⟩, rfl⟩⟩

end GV
