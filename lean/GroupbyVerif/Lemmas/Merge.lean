import GroupbyVerif.Model.Kernels

/-! # The merge of partial results

The block theorems rest on the append law alone (`runRed_append` in `Lemmas/Reducers`, folded over the blocks by
`foldl_chunks`).  `MergeOK` is a stated consequence of that law, with "good" = reachable from the empty partial; no
proof goes through it.
-/

namespace GV

structure MergeOK (step : Partial → Val → Partial) (merge : Partial → Partial → Partial)
    (e : Partial) (Good : Partial → Prop) (P : Val → Prop) : Prop where
  good_e : Good e
  good_step : ∀ t v, Good t → P v → Good (step t v)
  merge_e : ∀ s, Good s → merge s e = s
  e_merge : ∀ t, Good t → merge e t = t
  comm : ∀ s t v, Good s → Good t → P v → merge s (step t v) = step (merge s t) v

theorem MergeOK.of_append {step : Partial → Val → Partial} {merge : Partial → Partial → Partial} {e : Partial}
    {P : Val → Prop}
    (h : ∀ A B : List Val, (∀ v ∈ A, P v) → (∀ v ∈ B, P v) →
      (A ++ B).foldl step e = merge (A.foldl step e) (B.foldl step e))
    (he : ∀ s, merge s e = s) :
    MergeOK step merge e (fun t => ∃ A : List Val, (∀ v ∈ A, P v) ∧ A.foldl step e = t) P := by
  have snoc : ∀ (A : List Val) v, (∀ w ∈ A, P w) → P v → ∀ w ∈ A ++ [v], P w := fun A v hA hv =>
    List.forall_mem_append.mpr ⟨hA, fun w hw => List.mem_singleton.mp hw ▸ hv⟩
  have snoc_fold : ∀ (C : List Val) v, step (C.foldl step e) v = (C ++ [v]).foldl step e := fun C v => by
    rw [List.foldl_append]; rfl
  refine ⟨⟨[], nofun, rfl⟩, ?_, fun s _ => he s, ?_, ?_⟩
  · rintro _ v ⟨A, hA, rfl⟩ hv
    exact ⟨A ++ [v], snoc A v hA hv, (snoc_fold A v).symm⟩
  · rintro _ ⟨A, hA, rfl⟩
    exact (h [] A nofun hA).symm
  · rintro _ _ v ⟨A, hA, rfl⟩ ⟨B, hB, rfl⟩ hv
    -- both sides are the fold over A ++ B ++ [v]
    rw [← h A B hA hB, snoc_fold, snoc_fold, ← h A _ hA (snoc B v hB hv), List.append_assoc]

theorem foldl_mergeArr_apply (red : Red) (p : Int → Partial) (qs : List (Int → Partial)) (g : Int) :
    qs.foldl (mergeArr red) p g = (qs.map (· g)).foldl (mergePair red) (p g) := by
  induction qs generalizing p with
  | nil => rfl
  | cons q qs ih => rw [List.foldl_cons, ih]; rfl

end GV
