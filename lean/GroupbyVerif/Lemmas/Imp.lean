import GroupbyVerif.Model.Imp

/-!
# The primitives of the translated loops (`Model/Imp.lean`): index wrap, point update, ranges, counter wrap
-/

namespace GV

theorem normI_nonneg (n k : Int) (h : 0 ≤ k) : normI n k = k := by
  unfold normI; split <;> omega

theorem normI_neg (n k : Int) (h : k < 0) : normI n k = k + n := by
  unfold normI; split <;> omega

theorem normI_zero (n : Int) : normI n 0 = 0 := rfl

@[simp] theorem normI_natCast (n : Int) (i : Nat) : normI n (i : Int) = (i : Int) := normI_nonneg _ _ (by omega)

@[simp] theorem normI_ofNat (n : Int) (i : Nat) : normI n (Int.ofNat i) = Int.ofNat i :=
  normI_nonneg _ _ (by simp)

theorem normI_neg_one (n : Nat) : normI ((n + 1 : Nat) : Int) (-1) = (n : Int) := by
  rw [normI_neg _ _ (by decide)]; omega

/- `aset` (`Model/Imp.lean`, the translation's point update) and `upd` (`Model/Kernels.lean`, the models') are the same
function; `forall_aset_upd` in `LoopBridge/Fold.lean` is where the two meet. -/
@[simp] theorem aset_same {α : Type} (a : Int → α) (i : Int) (x : α) : aset a i x i = x := by simp [aset]

theorem aset_other {α : Type} (a : Int → α) (i j : Int) (x : α) (h : j ≠ i) : aset a i x j = a j := by
  simp [aset, h]

theorem aset_apply {α : Type} (a : Int → α) (i j : Int) (x : α) : aset a i x j = if j = i then x else a j := rfl

/-! ### conditional point updates: an `if` around `aset` moves into the value written -/

theorem aset_aset {α : Type} (a : Int → α) (i : Int) (x y : α) : aset (aset a i x) i y = aset a i y := by
  funext j; simp only [aset]; split <;> rfl

theorem ite_aset {α : Type} (c : Prop) [Decidable c] (a : Int → α) (i : Int) (x y : α) :
    (if c then aset a i x else aset a i y) = aset a i (if c then x else y) := by
  split <;> rfl

theorem aset_self {α : Type} (a : Int → α) (i : Int) : aset a i (a i) = a := by
  funext j; simp only [aset]; split <;> simp_all

theorem ite_aset_left {α : Type} (c : Prop) [Decidable c] (a : Int → α) (i : Int) (x : α) :
    (if c then aset a i x else a) = aset a i (if c then x else a i) := by
  rw [← ite_aset, aset_self]

theorem ite_aset_right {α : Type} (c : Prop) [Decidable c] (a : Int → α) (i : Int) (x : α) :
    (if c then a else aset a i x) = aset a i (if c then a i else x) := by
  rw [← ite_aset, aset_self]

theorem rangeI_natCast (n : Nat) : rangeI (n : Int) = (List.range n).map (fun i : Nat => (i : Int)) := by
  simp [rangeI]

theorem rangeI2_natCast (a n : Nat) :
    rangeI2 (a : Int) (n : Int) = (List.range (n - a)).map (fun j : Nat => ((a + j : Nat) : Int)) := by
  rw [rangeI2, Int.toNat_sub]
  rfl  -- `↑a + ↑j` is `↑(a + j)` by computation

theorem rangeI2_one (n : Nat) :
    rangeI2 (1 : Int) (n : Int) = (List.range' 1 (n - 1)).map (fun q : Nat => (q : Int)) := by
  rw [show (1 : Int) = ((1 : Nat) : Int) from rfl, rangeI2_natCast, List.range'_eq_map_range, List.map_map]
  rfl

theorem wrapU_id (w : Nat) (x : Int) (h0 : 0 ≤ x) (h1 : x < 2 ^ w) : wrapU w x = x :=
  Int.emod_eq_of_lt h0 h1

theorem wrapS_id (w : Nat) (hw : 0 < w) (x : Int) (h0 : -(2 ^ (w - 1) : Int) ≤ x) (h1 : x < 2 ^ (w - 1)) :
    wrapS w x = x := by
  obtain ⟨n, rfl⟩ := Nat.exists_eq_add_one_of_ne_zero (Nat.ne_of_gt hw)
  rw [Nat.add_sub_cancel] at h0 h1
  -- `x + 2^n` lies in `[0, 2^n + 2^n)`, so the remainder is the identity
  have hlo : 0 ≤ x + 2 ^ n := Int.add_nonneg_iff_neg_le.mpr h0
  have hhi : x + 2 ^ n < 2 ^ n + 2 ^ n := Int.add_lt_add_right h1 _
  rw [wrapS, Nat.add_sub_cancel, Int.pow_succ, Int.mul_comm _ 2, Int.two_mul, Int.emod_eq_of_lt hlo hhi, Int.add_sub_cancel]

/-- a counter that counts up from `0` does not wrap while it stays below `2 ^ (w - 1)` -/
theorem wrapS_succ (w : Nat) (hw : 0 < w) (x : Int) (h0 : 0 ≤ x) (h1 : x + 1 < 2 ^ (w - 1)) : wrapS w (x + 1) = x + 1 :=
  have hpow : (0 : Int) < 2 ^ (w - 1) := Int.pow_pos (by decide)
  wrapS_id w hw _ (by omega) h1

end GV
