import GroupbyVerif.Model.Margins
import GroupbyVerif.Lemmas.Factorize

/-!
# Lemmas for the margins model: re-aggregating per-group results = aggregating the rows

The aggregation is a commutative monoid (`AggLaws`) and duplicate-free labels partition the rows (`aggM_partition`).
One step of the recursion of `addRowMargin` puts `'All'` at a level of a pattern, which ignores that level of the label
(`matchesPat_insertIdx`): `directAgg_groupByOther` for the values, `matches_groupByOther` for the labels.
-/

namespace GV

section
variable {κ M : Type} [DecidableEq κ]

structure AggLaws (op : M → M → M) (e : M) : Prop where
  assoc : ∀ a b c, op (op a b) c = op a (op b c)
  comm : ∀ a b, op a b = op b a
  unit : ∀ a, op a e = a

variable {op : M → M → M} {e : M}

theorem AggLaws.left_comm (h : AggLaws op e) (a b c : M) : op a (op b c) = op b (op a c) := by
  rw [← h.assoc, h.comm a b, h.assoc]

omit [DecidableEq κ] in
theorem sum_laws : AggLaws (fun a b : Int => a + b) 0 :=
  ⟨fun a b c => Int.add_assoc a b c, fun a b => Int.add_comm a b, fun a => Int.add_zero a⟩

@[simp] theorem aggM_nil : aggM op e [] = e := rfl
@[simp] theorem aggM_cons (x : M) (xs : List M) : aggM op e (x :: xs) = op x (aggM op e xs) := rfl

theorem aggM_singleton (h : AggLaws op e) (x : M) : aggM op e [x] = x := by simp [h.unit]

theorem aggM_filter_or {α : Type} (h : AggLaws op e) (val : α → M) (p q : α → Bool) (rows : List α)
    (hpq : ∀ r ∈ rows, p r = true → q r = false) :
    aggM op e ((rows.filter fun r => p r || q r).map val)
      = op (aggM op e ((rows.filter p).map val)) (aggM op e ((rows.filter q).map val)) := by
  induction rows with
  | nil => exact (h.unit e).symm
  | cons r rs ih =>
    have ih := ih fun r hr => hpq r (List.mem_cons_of_mem _ hr)
    cases hp : p r
    · cases hq : q r
      · simp [hp, hq, ih]
      · simp [hp, hq, ih, h.left_comm]
    · simp [hp, hpq r (List.mem_cons_self ..) hp, ih, h.assoc]

theorem aggM_partition {α β : Type} [DecidableEq β] (h : AggLaws op e) (proj : α → β) (val : α → M)
    (labs : List β) (hnd : labs.Nodup) (rows : List α) :
    aggM op e (labs.map fun l => aggM op e ((rows.filter fun r => proj r = l).map val))
      = aggM op e ((rows.filter fun r => proj r ∈ labs).map val) := by
  induction labs with
  | nil => rw [List.filter_eq_nil_iff.mpr (by simp)]; rfl
  | cons a as ih =>
    obtain ⟨ha, has⟩ := List.nodup_cons.mp hnd
    simp only [List.map_cons, aggM_cons, ih has, List.mem_cons, Bool.decide_or]
    exact (aggM_filter_or h val _ _ rows fun r _ hr => by simpa [of_decide_eq_true hr] using ha).symm

theorem matchesPat_length (p : Pat κ) (l : List κ) (h : matchesPat p l = true) : p.length = l.length := by
  induction p generalizing l with
  | nil =>
    cases l with
    | nil => rfl
    | cons _ _ => exact absurd h Bool.false_ne_true
  | cons o ps ih =>
    cases l with
    | nil => cases o <;> exact absurd h Bool.false_ne_true
    | cons b ls =>
      cases o with
      | none => exact congrArg (· + 1) (ih ls h)
      | some a => exact congrArg (· + 1) (ih ls (Bool.and_eq_true_iff.mp h).2)

theorem matchesPat_all_one : ∀ (l : List κ), l.length = 1 → matchesPat [none] l = true
  | [_], _ => rfl

theorem matchesPat_map_some (l l' : List κ) : matchesPat (l.map some) l' = decide (l = l') := by
  induction l generalizing l' with
  | nil =>
    cases l' with
    | nil => rfl
    | cons b bs => exact (decide_eq_false (List.cons_ne_nil b bs).symm).symm
  | cons a as ih =>
    cases l' with
    | nil => exact (decide_eq_false (List.cons_ne_nil a as)).symm
    | cons b bs =>
      show (decide (a = b) && matchesPat (as.map some) bs) = decide (a :: as = b :: bs)
      rw [ih bs]
      simp only [List.cons.injEq, Bool.decide_and]

theorem matchesPat_insertIdx (i : Nat) (p : Pat κ) (l : List κ) (hi : i < l.length) :
    matchesPat (p.insertIdx i none) l = matchesPat p (l.eraseIdx i) := by
  induction l generalizing i p with
  | nil => exact absurd hi (Nat.not_lt_zero i)
  | cons b bs ih =>
    cases i with
    | zero => rw [List.insertIdx_zero, List.eraseIdx_cons_zero]; rfl
    | succ i =>
      rw [List.eraseIdx_cons_succ]
      cases p with
      | nil => rfl
      | cons a ps =>
        rw [List.insertIdx_succ_cons]
        cases a with
        | none => exact ih i ps (Nat.lt_of_succ_lt_succ hi)
        | some a => exact congrArg (decide (a = b) && ·) (ih i ps (Nat.lt_of_succ_lt_succ hi))

theorem filter_key_eq_self {α β : Type} [DecidableEq β] (f : α → β) (l : List α) (a : α) (ha : a ∈ l)
    (hnd : (l.map f).Nodup) : l.filter (fun s => f a = f s) = [a] := by
  induction l with
  | nil => cases ha
  | cons d ds ih =>
    obtain ⟨hd, hds⟩ := List.nodup_cons.mp hnd
    rcases List.mem_cons.mp ha with rfl | ha
    · have : ds.filter (fun s => decide (f a = f s)) = [] :=
        List.filter_eq_nil_iff.mpr fun s hs => by simpa using fun e' : f a = f s => hd (e' ▸ List.mem_map_of_mem hs)
      simp [this]
    · have : f a ≠ f d := fun e' => hd (e' ▸ List.mem_map_of_mem ha)
      simp [this, ih ha hds]

omit [DecidableEq κ] in
theorem mem_plainRows (data : List (List κ × M)) (r : Pat κ × M) :
    r ∈ plainRows data ↔ ∃ s ∈ data, r = (s.1.map some, s.2) := by
  simp only [plainRows, List.mem_map, eq_comm]

theorem directAgg_plain (h : AggLaws op e) (data : List (List κ × M)) (hnd : (data.map (·.1)).Nodup)
    (r : Pat κ × M) (hr : r ∈ plainRows data) : r.2 = directAgg op e data r.1 := by
  obtain ⟨s, hs, rfl⟩ := (mem_plainRows data r).mp hr
  unfold directAgg
  rw [List.filter_congr fun t _ => matchesPat_map_some s.1 t.1, filter_key_eq_self (·.1) data s hs hnd]
  exact (aggM_singleton h s.2).symm

/-- `groupByOther` (`proj` erases a level) and the per-group table of a reduction (`proj = id`) -/
def regroup (op : M → M → M) (e : M) (proj : List κ → List κ) (data : List (List κ × M)) : List (List κ × M) :=
  (dedup (data.map fun r => proj r.1)).map fun l => (l, aggM op e ((data.filter fun r => proj r.1 = l).map (·.2)))

theorem groupByOther_eq (level : Nat) (data : List (List κ × M)) :
    groupByOther op e level data = regroup op e (·.eraseIdx level) data := rfl

theorem regroup_labels (proj : List κ → List κ) (data : List (List κ × M)) :
    (regroup op e proj data).map (·.1) = dedup (data.map fun r => proj r.1) := by
  simp [regroup, List.map_map, Function.comp_def]

theorem regroup_nodup (proj : List κ → List κ) (data : List (List κ × M)) :
    ((regroup op e proj data).map (·.1)).Nodup := by
  rw [regroup_labels]; exact nodup_dedup _

theorem mem_regroup_labels (proj : List κ → List κ) (data : List (List κ × M)) (l : List κ) :
    l ∈ (regroup op e proj data).map (·.1) ↔ ∃ s ∈ data, proj s.1 = l := by
  simp [regroup_labels, mem_dedup]

theorem aggM_regroup (h : AggLaws op e) (proj : List κ → List κ) (data : List (List κ × M)) (q : List κ → Bool) :
    aggM op e (((regroup op e proj data).filter fun r => q r.1).map (·.2))
      = aggM op e ((data.filter fun r => q (proj r.1)).map (·.2)) := by
  unfold regroup
  rw [List.filter_map, List.map_map]
  refine (aggM_partition h (fun r : List κ × M => proj r.1) (·.2) _
    (.sublist List.filter_sublist (nodup_dedup _)) data).trans ?_
  congr 2
  refine List.filter_congr fun r hr => ?_
  have hmem : proj r.1 ∈ dedup (data.map fun r => proj r.1) :=
    (mem_dedup _ _).mpr (List.mem_map_of_mem (f := fun r : List κ × M => proj r.1) hr)
  simp [List.mem_filter, hmem]

theorem mem_groupByOther_labels (level : Nat) (data : List (List κ × M)) (l : List κ) :
    l ∈ (groupByOther op e level data).map (·.1) ↔ ∃ s ∈ data, s.1.eraseIdx level = l :=
  mem_regroup_labels (·.eraseIdx level) data l

theorem groupByOther_length (level n : Nat) (data : List (List κ × M)) (hl : level < n + 2)
    (hlen : ∀ r ∈ data, r.1.length = n + 2) : ∀ r ∈ groupByOther op e level data, r.1.length = n + 1 := by
  intro r hr
  obtain ⟨s, hs, hsr⟩ := (mem_groupByOther_labels level data r.1).mp (List.mem_map_of_mem (f := (·.1)) hr)
  rw [← hsr, List.length_eraseIdx, hlen s hs]
  simp [hl]

theorem matches_groupByOther (level : Nat) (data : List (List κ × M)) (hlen : ∀ r ∈ data, level < r.1.length)
    (p : Pat κ) : (∃ t ∈ groupByOther op e level data, matchesPat p t.1 = true) ↔
      ∃ s ∈ data, matchesPat (p.insertIdx level none) s.1 = true := by
  constructor
  · rintro ⟨t, ht, hm⟩
    obtain ⟨s, hs, hst⟩ := (mem_groupByOther_labels level data t.1).mp (List.mem_map_of_mem (f := (·.1)) ht)
    exact ⟨s, hs, by rw [matchesPat_insertIdx level p s.1 (hlen s hs), hst, hm]⟩
  · rintro ⟨s, hs, hm⟩
    obtain ⟨t, ht, hts⟩ := List.mem_map.mp ((mem_groupByOther_labels (op := op) (e := e) level data _).mpr ⟨s, hs, rfl⟩)
    exact ⟨t, ht, by rw [hts, ← matchesPat_insertIdx level p s.1 (hlen s hs), hm]⟩

theorem directAgg_groupByOther (h : AggLaws op e) (level : Nat) (data : List (List κ × M))
    (hlen : ∀ r ∈ data, level < r.1.length) (p : Pat κ) :
    directAgg op e (groupByOther op e level data) p = directAgg op e data (p.insertIdx level none) := by
  unfold directAgg
  rw [groupByOther_eq, aggM_regroup h]
  congr 2
  exact List.filter_congr fun r hr => (matchesPat_insertIdx level p r.1 (hlen r hr)).symm

theorem levels_lt (n : Nat) (levels : Option (List Nat)) (hlv : ∀ lv, levels = some lv → ∀ l ∈ lv, l < n)
    (l : Nat) (hl : l ∈ levels.getD (List.range n)) : l < n := by
  cases levels with
  | none => simpa using hl
  | some lv => exact hlv lv rfl l (by simpa using hl)

theorem mem_addRowMargin_one (levels : Option (List Nat)) (data : List (List κ × M)) (r : Pat κ × M) :
    r ∈ addRowMargin op e 1 levels data ↔ r ∈ plainRows data ∨ r = ([none], aggM op e (data.map (·.2))) := by
  simp [addRowMargin]

/-- where a row of the output with at least two levels comes from - an ordinary row, or a row of the recursive call on the
table aggregated over one requested level, with `'All'` put at that level - and what the final filter keeps -/
theorem mem_addRowMargin_succ (n : Nat) (levels : Option (List Nat)) (data : List (List κ × M)) (r : Pat κ × M) :
    r ∈ addRowMargin op e (n + 2) levels data ↔
      (r ∈ plainRows data ∨ ∃ level ∈ levels.getD (List.range (n + 2)),
        ∃ q ∈ addRowMargin op e (n + 1) none (groupByOther op e level data), r = (q.1.insertIdx level none, q.2)) ∧
      ∀ l, l < n + 2 → r.1[l]? = some none → l ∈ levels.getD (List.range (n + 2)) := by
  simp only [addRowMargin, List.mem_filter, List.mem_append, List.mem_flatMap, List.mem_map, List.all_eq_true,
    List.mem_range, Bool.or_eq_true, List.contains_iff_mem, bne_iff_ne, ne_eq, eq_comm (a := r)]
  refine and_congr_right fun _ => forall_congr' fun l => imp_congr_right fun _ => ?_
  exact or_comm.trans Decidable.imp_iff_not_or.symm

/-- `2 ≤ n`: with one level `addRowMargin` appends the `'All'` row whatever `levels` says -/
theorem all_only_requested {n : Nat} (hn : 2 ≤ n) {levels : Option (List Nat)} {data : List (List κ × M)}
    {r : Pat κ × M} (hr : r ∈ addRowMargin op e n levels data) :
    ∀ l, l < n → r.1[l]? = some none → l ∈ levels.getD (List.range n) := by
  obtain ⟨k, rfl⟩ := Nat.exists_eq_add_of_le' hn
  exact ((mem_addRowMargin_succ k levels data r).mp hr).2

/-- **soundness of `add_row_margin`**: every row of the output — ordinary or `'All'` — holds the
aggregate of exactly the input rows its label pattern summarises -/
theorem addRowMargin_sound (h : AggLaws op e) (n : Nat) (levels : Option (List Nat)) (data : List (List κ × M))
    (hn : 0 < n) (hlen : ∀ r ∈ data, r.1.length = n) (hnd : (data.map (·.1)).Nodup)
    (hlv : ∀ lv, levels = some lv → ∀ l ∈ lv, l < n) :
    ∀ r ∈ addRowMargin op e n levels data, r.2 = directAgg op e data r.1 := by
  induction n generalizing levels data with
  | zero => exact (Nat.lt_irrefl 0 hn).elim
  | succ n ih =>
    intro r hr
    cases n with
    | zero =>
      rcases (mem_addRowMargin_one levels data r).mp hr with hr | rfl
      · exact directAgg_plain h data hnd r hr
      · unfold directAgg
        rw [List.filter_eq_self.mpr fun s hs => matchesPat_all_one s.1 (hlen s hs)]
    | succ n =>
      rcases ((mem_addRowMargin_succ n levels data r).mp hr).1 with hr | ⟨level, hlevel, s, hs, rfl⟩
      · exact directAgg_plain h data hnd r hr
      · have hl : level < n + 2 := levels_lt (n + 2) levels hlv level hlevel
        rw [← directAgg_groupByOther h level data (fun r hr => hlen r hr ▸ hl)]
        exact ih none (groupByOther op e level data) (Nat.succ_pos n) (groupByOther_length level n data hl hlen)
          (regroup_nodup (·.eraseIdx level) data) nofun s hs

theorem insertIdx_eraseIdx_of_getElem? {α : Type} (l : Nat) (p : List α) (a : α) (h : p[l]? = some a) :
    (p.eraseIdx l).insertIdx l a = p := by
  induction p generalizing l with
  | nil => exact absurd h nofun
  | cons x xs ih =>
    cases l with
    | zero => rw [List.eraseIdx_cons_zero, List.insertIdx_zero, ← Option.some.inj h]
    | succ l => rw [List.eraseIdx_cons_succ, List.insertIdx_succ_cons, ih l h]

theorem plain_matches (s : List κ) : matchesPat (s.map some) s = true ∧ ∀ l : Nat, (s.map some)[l]? ≠ some none := by
  refine ⟨by simp [matchesPat_map_some], fun l h => ?_⟩
  rw [List.getElem?_map] at h
  cases hs : s[l]? <;> simp [hs] at h

theorem plain_or_all (p : Pat κ) (s : List κ) (h : matchesPat p s = true) :
    p = s.map some ∨ ∃ l, l < p.length ∧ p[l]? = some none := by
  induction p generalizing s with
  | nil =>
    cases s with
    | nil => exact .inl rfl
    | cons _ _ => exact absurd h Bool.false_ne_true
  | cons o ps ih =>
    cases s with
    | nil => cases o <;> exact absurd h Bool.false_ne_true
    | cons b ls =>
      cases o with
      | none => exact .inr ⟨0, Nat.succ_pos _, rfl⟩
      | some a =>
        obtain ⟨hab, hm⟩ := Bool.and_eq_true_iff.mp h
        rcases ih ls hm with hp | ⟨l, hl, hall⟩
        · exact .inl (by rw [of_decide_eq_true hab, hp]; rfl)
        · exact .inr ⟨l + 1, Nat.succ_lt_succ hl, hall⟩

/-- **the labels of `add_row_margin`**: the patterns of the output are exactly those that summarise at least one input
row and, in a table with at least two levels, have `'All'` only at requested levels -/
theorem addRowMargin_labels (n : Nat) (levels : Option (List Nat)) (data : List (List κ × M))
    (hn : 0 < n) (hne : data ≠ []) (hlen : ∀ r ∈ data, r.1.length = n)
    (hlv : ∀ lv, levels = some lv → ∀ l ∈ lv, l < n) (p : Pat κ) :
    p ∈ (addRowMargin op e n levels data).map (·.1) ↔
      (∃ s ∈ data, matchesPat p s.1 = true) ∧
        (2 ≤ n → ∀ l, l < n → p[l]? = some none → l ∈ levels.getD (List.range n)) := by
  induction n generalizing levels data p with
  | zero => exact (Nat.lt_irrefl 0 hn).elim
  | succ n ih =>
    cases n with
    | zero =>
      simp only [Nat.zero_add, List.mem_map, mem_addRowMargin_one]
      constructor
      · rintro ⟨r, hr | rfl, rfl⟩
        · obtain ⟨s, hs, rfl⟩ := (mem_plainRows data r).mp hr
          exact ⟨⟨s, hs, (plain_matches s.1).1⟩, fun h => absurd h (by decide)⟩
        · obtain ⟨s, hs⟩ := List.exists_mem_of_ne_nil data hne
          exact ⟨⟨s, hs, matchesPat_all_one s.1 (hlen s hs)⟩, fun h => absurd h (by decide)⟩
      · rintro ⟨⟨s, hs, hm⟩, _⟩
        rcases plain_or_all p s.1 hm with rfl | ⟨l, hl, hall⟩
        · exact ⟨_, .inl ((mem_plainRows data _).mpr ⟨s, hs, rfl⟩), rfl⟩
        · obtain ⟨o, rfl⟩ := List.length_eq_one_iff.mp ((matchesPat_length p s.1 hm).trans (hlen s hs))
          obtain rfl : l = 0 := by simpa using hl
          exact ⟨_, .inr rfl, by simpa using hall.symm⟩
    | succ n =>
      -- the recursive call on the table aggregated over the other levels, in terms of `data`
      have hcall : ∀ level < n + 2, ∀ q : Pat κ,
          q ∈ (addRowMargin op e (n + 1) none (groupByOther op e level data)).map (·.1) ↔
            ∃ s ∈ data, matchesPat (q.insertIdx level none) s.1 = true := by
        intro level hl q
        have hlt : ∀ r ∈ data, level < r.1.length := fun r hr => hlen r hr ▸ hl
        obtain ⟨s, hs⟩ := List.exists_mem_of_ne_nil data hne
        obtain ⟨t, ht, _⟩ := List.mem_map.mp ((mem_groupByOther_labels (op := op) (e := e) level data _).mpr ⟨s, hs, rfl⟩)
        rw [ih none _ (Nat.succ_pos n) (List.ne_nil_of_mem ht) (groupByOther_length level n data hl hlen) nofun q,
          matches_groupByOther level data hlt]
        exact and_iff_left fun _ l hl' _ => by simpa using hl'
      have h2 : 2 ≤ n + 2 := Nat.le_add_left 2 n
      simp only [List.mem_map, mem_addRowMargin_succ]
      constructor
      · rintro ⟨r, ⟨hr | ⟨level, hlevel, q, hq, rfl⟩, hreq⟩, rfl⟩
        · obtain ⟨s, hs, rfl⟩ := (mem_plainRows data r).mp hr
          exact ⟨⟨s, hs, (plain_matches s.1).1⟩, fun _ => hreq⟩
        · exact ⟨(hcall level (levels_lt (n + 2) levels hlv level hlevel) q.1).mp (List.mem_map_of_mem (f := (·.1)) hq),
            fun _ => hreq⟩
      · rintro ⟨⟨s, hs, hm⟩, hreq⟩
        rcases plain_or_all p s.1 hm with rfl | ⟨l, hl, hall⟩
        · exact ⟨_, ⟨.inl ((mem_plainRows data _).mpr ⟨s, hs, rfl⟩), hreq h2⟩, rfl⟩
        · rw [(matchesPat_length p s.1 hm).trans (hlen s hs)] at hl
          -- `p` is its pattern over the other levels with `'All'` put back at level `l`
          have hpeq : (p.eraseIdx l).insertIdx l none = p := insertIdx_eraseIdx_of_getElem? l p none hall
          obtain ⟨q, hq, hqp⟩ := List.mem_map.mp ((hcall l hl (p.eraseIdx l)).mpr ⟨s, hs, hpeq.symm ▸ hm⟩)
          have hq' : q.1.insertIdx l none = p := hqp ▸ hpeq
          exact ⟨(q.1.insertIdx l none, q.2), ⟨.inr ⟨l, hreq h2 l hl hall, q, hq, rfl⟩, hq' ▸ hreq h2⟩, hq'⟩

theorem lookupP_mem {α β : Type} [DecidableEq α] (a : α) (l : List (α × β)) (h : a ∈ l.map (·.1)) :
    ∃ v, lookupP a l = some v ∧ (a, v) ∈ l := by
  induction l with
  | nil => cases h
  | cons r rs ih =>
    by_cases hr : r.1 = a
    · exact ⟨r.2, by simp [lookupP, hr], hr ▸ List.mem_cons_self ..⟩
    · obtain ⟨v, hv, hm⟩ := ih ((List.mem_cons.mp h).resolve_left fun e' => hr e'.symm)
      exact ⟨v, by simp [lookupP, hr, hv], List.mem_cons_of_mem _ hm⟩

end

end GV
