import GroupbyVerif.Lemmas.Fold

/-! # The dispatch of `_group_func_wrap`: the blocks concatenate to the rows array indexing selects -/

namespace GV

theorem splitBy_length {α : Type} (xs : List α) (sizes : List Nat) : (splitBy xs sizes).length = sizes.length := by
  induction sizes generalizing xs with
  | nil => simp [splitBy]
  | cons s ss ih => simp [splitBy, ih]

theorem arraySplit_length {α : Type} (xs : List α) (k : Nat) : (arraySplit xs k).length = k := by
  simp [arraySplit, splitBy_length, splitSizes]

/-! ### `mapM` into `Option`: fancy indexing is `mapM (posAt xs)` -/

theorem mapM_cons_eq_some {α β : Type} {f : α → Option β} {x : α} {xs : List α} {r : List β} :
    (x :: xs).mapM f = some r ↔ ∃ y ys, f x = some y ∧ xs.mapM f = some ys ∧ r = y :: ys := by
  simp only [List.mapM_cons, bind, Option.bind_eq_some_iff, pure, Option.some.injEq]
  constructor
  · rintro ⟨y, hy, ys, hys, e⟩
    exact ⟨y, ys, hy, hys, e.symm⟩
  · rintro ⟨y, ys, hy, hys, e⟩
    exact ⟨y, hy, ys, hys, e.symm⟩

theorem mapM_flatten {α β : Type} {f : α → Option β} {parts : List (List α)} {bs : List (List β)}
    (h : parts.mapM (·.mapM f) = some bs) : parts.flatten.mapM f = some bs.flatten := by
  induction parts generalizing bs with
  | nil => cases h; rfl
  | cons p ps ih =>
    obtain ⟨r, rs, hr, hrs, rfl⟩ := mapM_cons_eq_some.mp h
    simp [List.mapM_append, hr, ih hrs]

theorem mapM_mem {α β : Type} {f : α → Option β} {l : List α} {r : List β} (h : l.mapM f = some r) :
    ∀ y ∈ r, ∃ x ∈ l, f x = some y := by
  induction l generalizing r with
  | nil => cases h; nofun
  | cons x xs ih =>
    obtain ⟨y, ys, hy, hys, rfl⟩ := mapM_cons_eq_some.mp h
    intro z hz
    rcases List.mem_cons.mp hz with rfl | hz
    · exact ⟨x, List.mem_cons_self, hy⟩
    · obtain ⟨a, ha, hfa⟩ := ih hys z hz
      exact ⟨a, List.mem_cons_of_mem _ ha, hfa⟩

/-- one position of `takePositions` -/
def posAt {α : Type} (xs : List α) (p : Int) : Option α :=
  let q := normIdx xs.length p
  if q < 0 then none else xs[q.toNat]?

theorem takePositions_eq {α : Type} (xs : List α) (ps : List Int) : takePositions xs ps = ps.mapM (posAt xs) := rfl

theorem takePositions_nil {α : Type} (xs : List α) : takePositions xs [] = some [] := rfl

theorem posAt_ofNat {α : Type} (xs : List α) (i : Nat) : posAt xs (Int.ofNat i) = xs[i]? := by
  have : ¬ ((i : Int) < 0) := by omega
  simp [posAt, normIdx, this]

theorem selectBool_append {α : Type} (a b : List α) (ma mb : List Bool) (h : a.length = ma.length) :
    selectBool (a ++ b) (ma ++ mb) = selectBool a ma ++ selectBool b mb := by
  simp [selectBool, List.zip_append h, List.filter_append]

theorem selectBool_splitBy {α : Type} (xs : List α) (m : List Bool) (lens : List Nat) (hl : xs.length = m.length) :
    (((splitBy xs lens).zip (splitBy m lens)).map fun p => selectBool p.1 p.2).flatten
      = selectBool (xs.take lens.sum) (m.take lens.sum) := by
  induction lens generalizing xs m with
  | nil => simp [splitBy, selectBool]
  | cons s ss ih =>
    simp only [splitBy, List.zip_cons_cons, List.map_cons, List.flatten_cons, List.sum_cons]
    rw [ih (xs.drop s) (m.drop s) (by simp [hl])]
    rw [List.take_add, List.take_add, List.take_drop, List.take_drop]
    rw [selectBool_append _ _ _ _ (by simp [hl])]

theorem takePositions_nonzero {α : Type} (xs : List α) (m : List Bool) (h : m.length = xs.length) :
    takePositions xs ((nonzero m).map Int.ofNat) = some (selectBool xs m) := by
  -- generalised to a mask for the tail `ys` of `pre ++ ys`, numbered from `pre.length`
  suffices H : ∀ (mm : List Bool) (pre ys : List α), mm.length = ys.length →
      (((mm.zipIdx pre.length).filter (·.1)).map (fun p => Int.ofNat p.2)).mapM (posAt (pre ++ ys))
        = some (selectBool ys mm) by
    simpa [nonzero, takePositions_eq, List.map_map, Function.comp_def] using H m [] xs h
  intro mm
  induction mm with
  | nil => intro pre ys _; simp [selectBool]
  | cons b bs ih =>
    intro pre ys hl
    cases ys with
    | nil => simp at hl
    | cons y ys =>
      have hrec := ih (pre ++ [y]) ys (by simpa using hl)
      rw [List.append_assoc, List.length_append] at hrec
      cases b with
      | false => simpa [selectBool] using hrec
      | true =>
        refine mapM_cons_eq_some.mpr ⟨y, _, ?_, hrec, by simp [selectBool]⟩
        exact (posAt_ofNat _ _).trans (by simp)

theorem blocksPlain_flatten (rows : List Row) (threads : Nat) (vch : Option (List Nat)) (blocks : List (List Row))
    (h : blocksPlain rows threads vch = some blocks) : blocks.flatten = rows := by
  unfold blocksPlain at h
  by_cases h1 : (threads = 1 && !isChunked vch) = true
  · rw [if_pos h1] at h; cases h; simp
  rw [if_neg h1] at h
  by_cases h2 : isChunked vch = true
  · rw [if_pos h2] at h
    by_cases h3 : (vch.getD []).sum = rows.length
    · rw [if_neg (not_not_intro h3)] at h; cases h
      rw [splitBy_flatten, h3, List.take_length]
    · rw [if_pos h3] at h; cases h
  rw [if_neg h2] at h
  by_cases h3 : threads = 0
  · rw [if_pos h3] at h; cases h
  · rw [if_neg h3] at h; cases h; exact arraySplit_flatten rows threads (Nat.pos_of_ne_zero h3)

theorem blocksBool_flatten (rows : List Row) (m : List Bool) (threads : Nat) (vch : Option (List Nat))
    (blocks : List (List Row)) (hm : m.length = rows.length)
    (h : blocksBool rows m threads vch = some blocks) : blocks.flatten = selectBool rows m := by
  unfold blocksBool at h
  by_cases h1 : (threads = 1 && !isChunked vch) = true
  · rw [if_pos h1, if_pos hm] at h; cases h; simp
  rw [if_neg h1] at h
  by_cases h2 : isChunked vch = true
  · rw [if_pos h2] at h
    by_cases h3 : (vch.getD []).sum = rows.length
    · rw [if_neg (not_not_intro h3), if_neg (not_not_intro hm)] at h; cases h
      rw [selectBool_splitBy rows m _ hm.symm, h3, List.take_length, ← hm, List.take_length]
    · rw [if_pos h3] at h; cases h
  rw [if_neg h2] at h
  by_cases h3 : threads = 0
  · rw [if_pos h3] at h; cases h
  · -- the positions of the true entries are split: block by block they select what they select together
    rw [if_neg h3] at h
    have : takePositions rows _ = _ := mapM_flatten h
    rw [arraySplit_flatten _ _ (Nat.pos_of_ne_zero h3), takePositions_nonzero rows m hm] at this
    exact (Option.some.inj this).symm

theorem blocksPos_flatten (rows : List Row) (p : List Int) (threads : Nat) (blocks : List (List Row))
    (h : blocksPos rows p threads = some blocks) : takePositions rows p = some blocks.flatten := by
  unfold blocksPos at h
  by_cases h1 : threads = 1
  · rw [if_pos h1] at h
    obtain ⟨b, hb, rfl⟩ := Option.map_eq_some_iff.mp h
    simpa using hb
  rw [if_neg h1] at h
  by_cases h3 : threads = 0
  · rw [if_pos h3] at h; cases h
  · rw [if_neg h3] at h
    have : takePositions rows _ = _ := mapM_flatten h
    rwa [arraySplit_flatten _ _ (Nat.pos_of_ne_zero h3)] at this

/-- **the dispatch selects rows the way array indexing would**, whenever it hands out blocks at all.  `blocksOf` is
`none` for zero threads on contiguous values, a position outside the rows, or value chunks that do not add up to the
rows; of `sliceChunks` (a slice of chunked values) nothing is proved, so nothing says that case is `some` -/
theorem blocksOf_flatten (rows : List Row) (mask : Mask) (threads : Nat) (vch : Option (List Nat))
    (blocks : List (List Row)) (hm : ∀ m, mask = .bool m → m.length = rows.length)
    (h : blocksOf rows mask threads vch = some blocks) : selectRows rows mask = some blocks.flatten := by
  cases mask with
  | none => simp [selectRows, selectGen, blocksPlain_flatten rows threads vch blocks h]
  | bool m => simp [selectRows, selectGen, hm m rfl, blocksBool_flatten rows m threads vch blocks (hm m rfl) h]
  | pos p => exact blocksPos_flatten rows p threads blocks h
  | slice a b => simp [selectRows, selectGen, blocksPlain_flatten _ threads _ blocks h]

theorem selectGen_mem {α : Type} (xs : List α) (mask : Mask) (sel : List α) (h : selectGen xs mask = some sel) :
    ∀ x ∈ sel, x ∈ xs := by
  cases mask with
  | none => cases h; simp
  | bool m =>
    simp only [selectGen] at h
    split at h
    · cases h
      intro x hx
      simp only [selectBool, List.mem_map, List.mem_filter] at hx
      obtain ⟨⟨a, b⟩, ⟨hz, _⟩, rfl⟩ := hx
      exact (List.of_mem_zip hz).1
    · cases h
  | slice a b =>
    cases h
    intro x hx
    exact List.mem_of_mem_drop (List.mem_of_mem_take hx)
  | pos p =>
    intro x hx
    obtain ⟨q, -, hq⟩ := mapM_mem h x hx
    simp only at hq
    split at hq
    · cases hq
    · exact List.mem_of_getElem? hq

end GV
