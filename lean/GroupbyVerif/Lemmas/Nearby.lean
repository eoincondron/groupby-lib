import GroupbyVerif.Model.Nearby
import GroupbyVerif.Lemmas.Fold
import GroupbyVerif.Lemmas.Imp

/-!
# `group_nearby_members`: what the output of every row is

`nearby_spec`: a null-key row gets `-1`; a row of group `g` gets the number of the group's previous row when it lies
within `max_diff` of it (`abs(v - v_prev) > max_diff` false - also when the difference is NaN), and otherwise a new
number, one more than every number handed out before.  `nearbyRun_drop_null`: deleting the null-key rows changes no other
row's output.
-/

namespace GV

theorem aset_app {α : Type} (a : Int → α) (i j : Int) (x : α) : aset a i x j = if j = i then x else a j := rfl

/-- index and value of the last row of group `g` -/
def lastSame (rows : List (Int × Val)) (g : Int) : Option (Nat × Val) :=
  ((rows.zipIdx.filter (fun p => p.1.1 = g)).getLast?).map (fun p => (p.2, p.1.2))

/-- the largest number handed out so far (`-1` before the first) -/
def maxSoFar (outs : List Int) : Int := outs.foldl max (-1)

theorem nearbyRun_snoc (d : Val) (P : List (Int × Val)) (r : Int × Val) :
    nearbyRun d (P ++ [r]) =
      ((nearbyStep d (nearbyRun d P).1 r).1, (nearbyRun d P).2 ++ [(nearbyStep d (nearbyRun d P).1 r).2]) := by
  simp [nearbyRun, List.foldl_append]

theorem nearbyRun_length (d : Val) (P : List (Int × Val)) : (nearbyRun d P).2.length = P.length := by
  induction P using list_reverse_induction with
  | h0 => rfl
  | hs l x ih => rw [nearbyRun_snoc]; simp [ih]

theorem maxSoFar_snoc (O : List Int) (x : Int) : maxSoFar (O ++ [x]) = max (maxSoFar O) x := by
  simp [maxSoFar, List.foldl_append]

theorem le_foldl_max (l : List Int) (a : Int) : a ≤ l.foldl max a ∧ ∀ x ∈ l, x ≤ l.foldl max a := by
  induction l generalizing a with
  | nil => exact ⟨Int.le_refl a, fun _ h => nomatch h⟩
  | cons y ys ih =>
    obtain ⟨h1, h2⟩ := ih (max a y)
    rw [List.foldl_cons]
    refine ⟨Int.le_trans (Int.le_max_left a y) h1, fun x hx => ?_⟩
    rcases List.mem_cons.mp hx with rfl | hx
    · exact Int.le_trans (Int.le_max_right a x) h1
    · exact h2 x hx

theorem lastSame_snoc (P : List (Int × Val)) (r : Int × Val) (g : Int) :
    lastSame (P ++ [r]) g = if r.1 = g then some (P.length, r.2) else lastSame P g := by
  unfold lastSame
  rw [List.zipIdx_append, List.filter_append]
  simp only [List.zipIdx_cons, List.zipIdx_nil, Nat.zero_add]
  by_cases e : r.1 = g
  · simp [e]
  · simp [e]

theorem lastSame_lt (P : List (Int × Val)) (g : Int) (j : Nat) (v : Val) (h : lastSame P g = some (j, v)) :
    j < P.length := by
  induction P using list_reverse_induction with
  | h0 => simp [lastSame] at h
  | hs l x ih =>
    rw [lastSame_snoc] at h
    rw [List.length_append, List.length_singleton]
    split at h
    · obtain ⟨rfl, -⟩ := Prod.mk.inj (Option.some.inj h); exact Nat.lt_succ_self _
    · exact Nat.lt_succ_of_lt (ih h)

theorem nearbyStep_null (d : Val) (st : NearbySt) (key : Int) (v : Val) (h : key < 0) :
    nearbyStep d st (key, v) = (st, -1) := by
  rw [nearbyStep, if_pos h]

/-- a row with a non-null key, with every conditional write of `nearbyStep` moved into the value written: all three
arrays are written at `key` (`seen` of a seen group and `tracker` of a row that joins its group get their own content),
and the row's number is the `tracker` cell just written -/
theorem nearbyStep_live (d : Val) (st : NearbySt) (key : Int) (v : Val) (h : 0 ≤ key) :
    nearbyStep d st (key, v) =
      (⟨aset st.seen key true, if nearbyFresh d st (key, v) then st.counter + 1 else st.counter,
        aset st.tracker key (if nearbyFresh d st (key, v) then st.counter + 1 else st.tracker key), aset st.last key v⟩,
       if nearbyFresh d st (key, v) then st.counter + 1 else st.tracker key) := by
  have hseen : (if (!st.seen key) = true then true else st.seen key) = true := by cases st.seen key <;> rfl
  rw [nearbyStep, if_neg (Int.not_lt.mpr h)]
  simp only [ite_aset_left, hseen, aset_same]

/-- the state after the rows `P` and their outputs `O`: `seen g` says whether group `g` has a row; `last g` and
`tracker g` are the value and the output of the group's last row; `counter` is the largest number handed out -/
def NearbyInv (P : List (Int × Val)) (st : NearbySt) (O : List Int) : Prop :=
  (∀ g : Int, 0 ≤ g → st.seen g = (lastSame P g).isSome) ∧
  (∀ (g : Int) (j : Nat) (v : Val), 0 ≤ g → lastSame P g = some (j, v) → st.last g = v ∧ O[j]? = some (st.tracker g)) ∧
  st.counter = maxSoFar O

theorem nearby_inv (d : Val) (P : List (Int × Val)) : NearbyInv P (nearbyRun d P).1 (nearbyRun d P).2 := by
  induction P using list_reverse_induction with
  | h0 =>
    refine ⟨fun g _ => by simp [nearbyRun, nearbyInit, lastSame], fun g j v _ h => by simp [lastSame] at h, ?_⟩
    simp [nearbyRun, nearbyInit, maxSoFar]
  | hs P r ih =>
    rw [nearbyRun_snoc]
    have hlen := nearbyRun_length d P
    generalize nearbyRun d P = run at ih hlen
    obtain ⟨st, O⟩ := run
    obtain ⟨i1, i2, i3⟩ := ih
    simp only at i1 i2 i3 hlen ⊢
    obtain ⟨key, v⟩ := r
    have hOj : ∀ g j w, lastSame P g = some (j, w) → j < O.length := fun g j w h => hlen ▸ lastSame_lt P g j w h
    by_cases hk : key < 0
    · rw [nearbyStep_null d st key v hk]
      have hne : ∀ g, 0 ≤ g → key ≠ g := fun g hg => Int.ne_of_lt (Int.lt_of_lt_of_le hk hg)
      refine ⟨fun g hg => ?_, fun g j w hg h => ?_, ?_⟩
      · rw [lastSame_snoc, if_neg (hne g hg)]; exact i1 g hg
      · rw [lastSame_snoc, if_neg (hne g hg)] at h
        rw [List.getElem?_append_left (hOj g j w h)]
        exact i2 g j w hg h
      · rw [maxSoFar_snoc, i3]
        exact (Int.max_eq_left (le_foldl_max O (-1)).1).symm
    · have hk0 : 0 ≤ key := Int.not_lt.mp hk
      rw [nearbyStep_live d st key v hk0]
      refine ⟨fun g hg => ?_, fun g j w hg h => ?_, ?_⟩
      · simp only [lastSame_snoc, aset_apply]
        by_cases e : g = key
        · rw [if_pos e, if_pos e.symm]; rfl
        · rw [if_neg e, if_neg (Ne.symm e)]; exact i1 g hg
      · simp only [lastSame_snoc] at h
        simp only [aset_apply]
        by_cases e : g = key
        · rw [if_pos e.symm] at h
          obtain ⟨rfl, rfl⟩ := Prod.mk.inj (Option.some.inj h)
          rw [if_pos e, if_pos e, ← hlen, List.getElem?_append_right (Nat.le_refl _), Nat.sub_self]
          exact ⟨rfl, rfl⟩
        · rw [if_neg (Ne.symm e)] at h
          rw [if_neg e, if_neg e, List.getElem?_append_left (hOj g j w h)]
          exact i2 g j w hg h
      · rw [maxSoFar_snoc, ← i3]
        cases hf : nearbyFresh d st (key, v)
        · -- not a new sub-group: the group was seen, and its number is an old one
          have hseen : (lastSame P key).isSome = true := by
            rw [← i1 key hk0]
            cases hs : st.seen key
            · rw [nearbyFresh, hs] at hf; cases hf
            · rfl
          obtain ⟨⟨j, w⟩, hjw⟩ := Option.isSome_iff_exists.mp hseen
          have : st.tracker key ≤ maxSoFar O := (le_foldl_max O (-1)).2 _ (List.mem_of_getElem? (i2 key j w hk0 hjw).2)
          exact (Int.max_eq_left (i3 ▸ this)).symm
        · exact (Int.max_eq_right (Int.le_add_one (Int.le_refl _))).symm

theorem nearbyRun_prefix (d : Val) (A B : List (Int × Val)) :
    (nearbyRun d (A ++ B)).2.take A.length = (nearbyRun d A).2 := by
  induction B using list_reverse_induction with
  | h0 => simp [List.take_of_length_le, nearbyRun_length]
  | hs l x ih =>
    rw [← List.append_assoc, nearbyRun_snoc]
    simp only
    rw [List.take_append_of_le_length (by rw [nearbyRun_length]; simp), ih]

theorem nearby_getElem (d : Val) (rows : List (Int × Val)) (i : Nat) (r : Int × Val) (hi : rows[i]? = some r) :
    (nearby d rows).take i = nearby d (rows.take i) ∧
      (nearby d rows)[i]? = some (nearbyStep d (nearbyRun d (rows.take i)).1 r).2 := by
  obtain ⟨hlt, rfl⟩ := List.getElem?_eq_some_iff.mp hi
  have htake : ∀ j, j ≤ rows.length → (nearby d rows).take j = nearby d (rows.take j) := fun j hj => by
    have := nearbyRun_prefix d (rows.take j) (rows.drop j)
    rwa [List.take_append_drop, List.length_take, Nat.min_eq_left hj] at this
  refine ⟨htake i (Nat.le_of_lt hlt), ?_⟩
  -- cell `i` is the last output of the run over the first `i + 1` rows
  have h := congrArg (·[i]?) (htake (i + 1) hlt)
  simp only [List.getElem?_take, Nat.lt_succ_self, if_true] at h
  have hlen : (nearbyRun d (rows.take i)).2.length = i := by
    rw [nearbyRun_length, List.length_take, Nat.min_eq_left (Nat.le_of_lt hlt)]
  rw [h, List.take_succ_eq_append_getElem hlt, nearby, nearbyRun_snoc, List.getElem?_append_right (Nat.le_of_eq hlen),
    hlen, Nat.sub_self]
  rfl

/-- **the output of every row** -/
theorem nearby_spec (d : Val) (rows : List (Int × Val)) (i : Nat) (g : Int) (v : Val) (hi : rows[i]? = some (g, v)) :
    let outs := nearby d rows
    (g < 0 → outs[i]? = some (-1)) ∧
    (0 ≤ g → match lastSame (rows.take i) g with
      | none => outs[i]? = some (maxSoFar (outs.take i) + 1)
      | some (j, vj) =>
        if Val.gt (Val.abs (Val.sub v vj)) d then outs[i]? = some (maxSoFar (outs.take i) + 1)
        else outs[i]? = outs[j]?) := by
  intro outs
  obtain ⟨hpre, hout⟩ := nearby_getElem d rows i (g, v) hi
  have hinv := nearby_inv d (rows.take i)
  show ((g < 0 → (nearby d rows)[i]? = some (-1)) ∧ _)
  rw [hout]
  constructor
  · intro hg; rw [nearbyStep_null d _ g v hg]
  · intro hg
    show match lastSame (rows.take i) g with
      | none => _ = some (maxSoFar ((nearby d rows).take i) + 1)
      | some (j, vj) => if Val.gt (Val.abs (Val.sub v vj)) d then _ = some (maxSoFar ((nearby d rows).take i) + 1)
          else _ = (nearby d rows)[j]?
    rw [hpre]
    have hpre' : (nearbyRun d rows).2.take i = (nearbyRun d (rows.take i)).2 := hpre
    unfold nearby
    generalize nearbyRun d (rows.take i) = run at hinv hpre'
    obtain ⟨st, O⟩ := run
    obtain ⟨i1, i2, i3⟩ := hinv
    simp only at i1 i2 i3 hpre' ⊢
    rw [nearbyStep_live d st g v hg, nearbyFresh, i1 g hg, i3]
    cases hl : lastSame (rows.take i) g with
    | none => rfl
    | some jv =>
      obtain ⟨j, vj⟩ := jv
      obtain ⟨a, b⟩ := i2 g j vj hg hl
      simp only [Option.isSome_some, Bool.not_true, Bool.false_eq_true, if_false, a]
      cases hf : Val.gt (Val.abs (Val.sub v vj)) d
      · -- the row joins the sub-group of the group's previous row `j < i`
        have hjlen : j < (rows.take i).length := lastSame_lt _ g j vj hl
        have hjlt : j < i := Nat.lt_of_lt_of_le hjlen (List.length_take_le i rows)
        have h := congrArg (fun l => l[j]?) hpre'
        simp only [List.getElem?_take, hjlt, if_true] at h
        simp only [Bool.false_eq_true, if_false]
        rw [h, b]
      · rfl

/-- **null-key rows are inert**: the state after the rows equals the state after the rows with the null-key rows
deleted, and the outputs of the kept rows are the same -/
theorem nearbyRun_drop_null (d : Val) (rows : List (Int × Val)) :
    (nearbyRun d (rows.filter (fun r => decide (0 ≤ r.1)))).1 = (nearbyRun d rows).1 ∧
    (nearbyRun d (rows.filter (fun r => decide (0 ≤ r.1)))).2
      = ((rows.zip (nearbyRun d rows).2).filter (fun p => decide (0 ≤ p.1.1))).map (·.2) := by
  induction rows using list_reverse_induction with
  | h0 => simp [nearbyRun]
  | hs P r ih =>
    obtain ⟨ih1, ih2⟩ := ih
    obtain ⟨key, v⟩ := r
    rw [List.filter_append, nearbyRun_snoc]
    simp only
    rw [List.zip_append (by rw [nearbyRun_length])]
    simp only [List.filter_append, List.map_append, ← ih2]
    by_cases hk : key < 0
    · have hdrop : decide (0 ≤ key) = false := decide_eq_false (Int.not_le.mpr hk)
      rw [nearbyStep_null d _ key v hk]
      simp only [List.filter_cons, hdrop, Bool.false_eq_true, if_false, List.filter_nil, List.append_nil,
        List.zip_cons_cons, List.zip_nil_right, List.map_nil, and_true]
      exact ih1
    · have hkeep : decide (0 ≤ key) = true := decide_eq_true (Int.not_lt.mp hk)
      simp only [List.filter_cons, hkeep, if_true, List.filter_nil]
      rw [nearbyRun_snoc, ih1]
      refine ⟨rfl, ?_⟩
      simp only [List.zip_cons_cons, List.zip_nil_right, List.filter_cons, hkeep, if_true, List.filter_nil, List.map_cons,
        List.map_nil]

end GV
