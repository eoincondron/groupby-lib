import GroupbyVerif.Model.Factorize

/-!
# `_monotonic_factorization`: run detection on the sorted, null-free prefix (C02)

`OrderOK` and `Post` are the vocabulary of C02's sorted-prefix theorems.  `Acc` is the invariant of the loop `go`; where
`go` stops it is the postcondition `Post`.  The order of the elements is given by an embedding `key` into `Nat`: only
elements of the one input list are compared, and a linear order on finitely many elements has such an embedding (the
rank).
-/

namespace GV.Mono
open GV

variable {α : Type} (key : α → Nat) (isNull : α → Bool)

/-- the comparisons of the source agree with the strict order of `key` on non-null elements
(with a null on either side they may answer anything - IEEE: false) -/
def OrderOK (lt gt : α → α → Bool) : Prop :=
  ∀ a b, isNull a = false → isNull b = false → (lt a b = decide (key a < key b) ∧ gt a b = decide (key a > key b))

/-- what the run detection must deliver for the input `xs` -/
structure Post (xs : List α) (r : Nat × List Nat × List α) : Prop where
  cut_le : r.1 ≤ xs.length
  codes_len : r.2.1.length = r.1
  nullfree : ∀ a ∈ xs.take r.1, isNull a = false
  sorted : (xs.take r.1).Pairwise (fun a b => key a ≤ key b)
  labels_inc : r.2.2.Pairwise (fun a b => key a < key b)
  faithful : ∀ j, j < r.1 → ∃ c l x, r.2.1[j]? = some c ∧ r.2.2[c]? = some l ∧ xs[j]? = some x ∧ key l = key x
  maximal : r.1 < xs.length → 0 < r.1 → ∃ x y, xs[r.1]? = some x ∧ xs[r.1 - 1]? = some y ∧ (isNull x = true ∨ key x < key y)

/-- loop invariant of `go` after the prefix `q ++ [prev]` (accumulators are kept reversed) -/
structure Acc (q : List α) (prev : α) (i : Nat) (codes : List Nat) (labels : List α) : Prop where
  ilen : i = q.length + 1
  nullfree : ∀ a ∈ q ++ [prev], isNull a = false
  sorted : (q ++ [prev]).Pairwise (fun a b => key a ≤ key b)
  codes_len : codes.length = q.length + 1
  lab_head : ∃ l, labels.head? = some l ∧ key l = key prev
  labels_inc : labels.reverse.Pairwise (fun a b => key a < key b)
  faithful : ∀ j, j < q.length + 1 → ∃ c l x, codes.reverse[j]? = some c ∧ labels.reverse[c]? = some l ∧ (q ++ [prev])[j]? = some x ∧ key l = key x

theorem pairwise_snoc {β : Type} (R : β → β → Prop) (l : List β) (x : β) (h : l.Pairwise R) (hx : ∀ a ∈ l, R a x) :
    (l ++ [x]).Pairwise R := by
  rw [List.pairwise_append]
  exact ⟨h, by simp, by intro a ha b hb; simp at hb; subst hb; exact hx a ha⟩

theorem le_last (R : α → α → Prop) (hR : ∀ a b, R a b → key a ≤ key b) (q : List α) (x : α) (hs : (q ++ [x]).Pairwise R) :
    ∀ a ∈ q ++ [x], key a ≤ key x := by
  intro a ha
  rcases List.mem_append.mp ha with h | h
  · exact hR _ _ ((List.pairwise_append.mp hs).2.2 a h x (List.mem_singleton_self x))
  · rw [List.mem_singleton.mp h]; exact Nat.le_refl _

variable {key isNull}
variable {q : List α} {prev : α} {i : Nat} {codes : List Nat} {labels : List α}

theorem Acc.post (acc : Acc key isNull q prev i codes labels) (ys : List α)
    (hmax : ∀ y, ys.head? = some y → isNull y = true ∨ key y < key prev) :
    Post key isNull (q ++ [prev] ++ ys) (i, codes.reverse, labels.reverse) := by
  obtain rfl := acc.ilen
  have hq : (q ++ [prev]).length = q.length + 1 := by rw [List.length_append, List.length_singleton]
  have htake : (q ++ [prev] ++ ys).take (q.length + 1) = q ++ [prev] := List.take_left' hq
  refine ⟨by rw [List.length_append, hq]; exact Nat.le_add_right _ _, (List.length_reverse ..).trans acc.codes_len, ?_, ?_,
    acc.labels_inc, fun j hj => ?_, fun hlt _ => ?_⟩
  · show ∀ a ∈ (q ++ [prev] ++ ys).take (q.length + 1), _
    rw [htake]; exact acc.nullfree
  · show ((q ++ [prev] ++ ys).take (q.length + 1)).Pairwise _
    rw [htake]; exact acc.sorted
  · obtain ⟨c, l, x, h1, h2, h3, h4⟩ := acc.faithful j hj
    exact ⟨c, l, x, h1, h2, (List.getElem?_append_left (List.getElem?_eq_some_iff.mp h3).1).trans h3, h4⟩
  · cases ys with
    | nil => simp at hlt
    | cons y ys => exact ⟨y, prev, by simp, by simp, hmax y rfl⟩

/-- both continuing branches of `go`; `c` and `labels'` are where they differ -/
theorem Acc.push (acc : Acc key isNull q prev i codes labels) (y : α) (hy : isNull y = false) (hle : key prev ≤ key y)
    (c : Nat) (labels' : List α) (hinc : labels'.reverse.Pairwise (fun a b => key a < key b))
    (hext : ∀ (c : Nat) (l : α), labels.reverse[c]? = some l → labels'.reverse[c]? = some l)
    (hhead : ∃ l, labels'.head? = some l ∧ key l = key y) (hc : ∃ l, labels'.reverse[c]? = some l ∧ key l = key y) :
    Acc key isNull (q ++ [prev]) y (i + 1) (c :: codes) labels' := by
  have hlen := acc.codes_len
  have hq : (q ++ [prev]).length = q.length + 1 := by rw [List.length_append, List.length_singleton]
  refine ⟨by rw [acc.ilen, hq], ?_, ?_, by rw [List.length_cons, hlen, hq], hhead, hinc, fun j hj => ?_⟩
  · intro a ha
    rcases List.mem_append.mp ha with h | h
    · exact acc.nullfree a h
    · rw [List.mem_singleton.mp h]; exact hy
  · exact pairwise_snoc _ _ _ acc.sorted fun a ha => Nat.le_trans (le_last key _ (fun _ _ h => h) q prev acc.sorted a ha) hle
  · rw [hq] at hj
    rw [List.reverse_cons]
    rcases Nat.lt_succ_iff_lt_or_eq.mp hj with hjl | rfl
    · obtain ⟨c', l, x, h1, h2, h3, h4⟩ := acc.faithful j hjl
      exact ⟨c', l, x, (List.getElem?_append_left (List.getElem?_eq_some_iff.mp h1).1).trans h1, hext _ _ h2,
        (List.getElem?_append_left (List.getElem?_eq_some_iff.mp h3).1).trans h3, h4⟩
    · obtain ⟨l, hl, hk⟩ := hc
      refine ⟨c, l, y, ?_, hl, ?_, hk⟩
      · rw [← hlen, ← List.length_reverse]; exact List.getElem?_concat_length
      · rw [← hq]; exact List.getElem?_concat_length

theorem Acc.label_le (acc : Acc key isNull q prev i codes labels) : ∀ a ∈ labels.reverse, key a ≤ key prev := by
  obtain ⟨lh, hlh, hk⟩ := acc.lab_head
  cases labels with
  | nil => simp at hlh
  | cons h t =>
    obtain rfl : h = lh := by simpa using hlh
    rw [List.reverse_cons, ← hk]
    exact le_last key _ (fun _ _ => Nat.le_of_lt) _ h (List.reverse_cons ▸ acc.labels_inc)

theorem Post.label_inj {xs : List α} {r : Nat × List Nat × List α} (post : Post key isNull xs r) {c c' : Nat} {l l' : α}
    (hl : r.2.2[c]? = some l) (hl' : r.2.2[c']? = some l') (hk : key l = key l') : c = c' := by
  have hnlt : ∀ (c c' : Nat) (l l' : α), r.2.2[c]? = some l → r.2.2[c']? = some l' → key l = key l' → ¬ c < c' :=
    fun c c' l l' hl hl' hk hlt => by
      obtain ⟨h1, e1⟩ := List.getElem?_eq_some_iff.mp hl
      obtain ⟨h2, e2⟩ := List.getElem?_eq_some_iff.mp hl'
      have := List.pairwise_iff_getElem.mp post.labels_inc c c' h1 h2 hlt
      rw [e1, e2, hk] at this
      exact Nat.lt_irrefl _ this
  exact Nat.le_antisymm (Nat.le_of_not_lt (hnlt c' c l' l hl' hl hk.symm)) (Nat.le_of_not_lt (hnlt c c' l l' hl hl' hk))

variable (key isNull)

theorem go_post (lt gt : α → α → Bool) (hord : OrderOK key isNull lt gt) (prev : α) (i : Nat) (codes : List Nat) (labels : List α) (q ys : List α)
    (acc : Acc key isNull q prev i codes labels) :
    Post key isNull (q ++ [prev] ++ ys) (monotonicFactorization.go lt gt isNull prev i codes labels ys) := by
  induction ys generalizing prev i codes labels q with
  | nil => exact acc.post [] (fun _ h => by simp at h)
  | cons y ys ih =>
    have hprev : isNull prev = false := acc.nullfree prev (List.mem_append_right _ (List.mem_singleton_self prev))
    unfold monotonicFactorization.go
    by_cases hstop : (lt y prev || isNull y) = true
    · rw [if_pos hstop]
      refine acc.post (y :: ys) fun y' h => ?_
      obtain rfl : y = y' := Option.some.inj h
      cases hyn : isNull y with
      | true => exact Or.inl rfl
      | false =>
        rw [hyn, Bool.or_false, (hord y prev hyn hprev).1] at hstop
        exact Or.inr (of_decide_eq_true hstop)
    · rw [if_neg hstop]
      rw [Bool.or_eq_true, not_or, Bool.not_eq_true, Bool.not_eq_true] at hstop
      obtain ⟨hlt, hy⟩ := hstop
      obtain ⟨hltK, hgtK⟩ := hord y prev hy hprev
      have hle : key prev ≤ key y := Nat.le_of_not_lt (of_decide_eq_false (hltK ▸ hlt))
      rw [show q ++ [prev] ++ y :: ys = (q ++ [prev]) ++ [y] ++ ys from (List.append_assoc (q ++ [prev]) [y] ys).symm]
      by_cases hgt : gt y prev = true
      · -- a new label: above every label so far
        rw [if_pos hgt]
        have hkey : key prev < key y := of_decide_eq_true (hgtK ▸ hgt)
        refine ih _ _ _ _ _ (acc.push y hy hle _ (y :: labels) ?_ (fun c l h => ?_) ⟨y, rfl, rfl⟩ ⟨y, ?_, rfl⟩)
        · rw [List.reverse_cons]
          exact pairwise_snoc _ _ _ acc.labels_inc fun a ha => Nat.lt_of_le_of_lt (acc.label_le a ha) hkey
        · rw [List.reverse_cons, List.getElem?_append_left (List.getElem?_eq_some_iff.mp h).1]; exact h
        · rw [List.reverse_cons, ← List.length_reverse, List.getElem?_concat_length]
      · -- the same label continues: it is the head of `labels`, the last of `labels.reverse`
        rw [if_neg hgt]
        have hkeq : key y = key prev :=
          Nat.le_antisymm (Nat.le_of_not_lt fun h => hgt (hgtK ▸ decide_eq_true h)) hle
        obtain ⟨lh, hlh, hk⟩ := acc.lab_head
        refine ih _ _ _ _ _ (acc.push y hy hle _ labels acc.labels_inc (fun _ _ h => h) ⟨lh, hlh, hk ▸ hkeq.symm⟩
          ⟨lh, ?_, hk ▸ hkeq.symm⟩)
        cases labels with
        | nil => exact nomatch hlh
        | cons h t =>
          obtain rfl : h = lh := Option.some.inj hlh
          rw [List.reverse_cons, List.length_cons, Nat.add_sub_cancel, ← List.length_reverse]
          exact List.getElem?_concat_length

theorem Post.empty (xs : List α) : Post key isNull xs (0, [], []) :=
  ⟨Nat.zero_le _, rfl, fun _ h => absurd h List.not_mem_nil, List.Pairwise.nil, List.Pairwise.nil,
    fun _ hj => absurd hj (Nat.not_lt_zero _), fun _ h => absurd h (Nat.lt_irrefl 0)⟩

/-- **`_monotonic_factorization`**: the cut-off is the end of the longest null-free non-decreasing prefix (it stops at
the first null or the first decrease), the labels are strictly increasing (hence distinct), and every row of the
prefix carries the code of a label with its key -/
theorem monotonic_post (lt gt : α → α → Bool) (hord : OrderOK key isNull lt gt) (xs : List α) :
    Post key isNull xs (monotonicFactorization lt gt isNull xs) := by
  cases xs with
  | nil => exact Post.empty key isNull []
  | cons x xs =>
    unfold monotonicFactorization
    cases hx : isNull x with
    | true =>
      simp only [hx, if_true]
      exact Post.empty key isNull (x :: xs)
    | false =>
      simp only [hx, Bool.false_eq_true, if_false]
      exact go_post key isNull lt gt hord x 1 [0] [x] [] xs
        ⟨rfl, by simpa using hx, by simp, rfl, ⟨x, rfl, rfl⟩, by simp, fun j hj => by
          obtain rfl : j = 0 := by simpa using hj
          exact ⟨0, x, x, rfl, rfl, rfl, rfl⟩⟩

theorem go_cut_ge (lt gt : α → α → Bool) (ys : List α) (prev : α) (i : Nat) (cs : List Nat) (ls : List α) :
    i ≤ (monotonicFactorization.go lt gt isNull prev i cs ls ys).1 := by
  induction ys generalizing prev i cs ls with
  | nil => exact Nat.le_refl i
  | cons y ys ih =>
    unfold monotonicFactorization.go
    split
    · exact Nat.le_refl i
    · split
      · exact Nat.le_trans (Nat.le_succ i) (ih _ _ _ _)
      · exact Nat.le_trans (Nat.le_succ i) (ih _ _ _ _)

/-- a null first element gives the empty prefix; otherwise the prefix is non-empty -/
theorem monotonic_cut_zero (lt gt : α → α → Bool) (hord : OrderOK key isNull lt gt) (x : α) (xs : List α) :
    (monotonicFactorization lt gt isNull (x :: xs)).1 = 0 ↔ isNull x = true := by
  unfold monotonicFactorization
  cases hx : isNull x with
  | true => simp [hx]
  | false =>
    have := go_cut_ge isNull lt gt xs x 1 [0] [x]
    simp only [hx, Bool.false_eq_true, if_false, iff_false]
    omega

end GV.Mono
