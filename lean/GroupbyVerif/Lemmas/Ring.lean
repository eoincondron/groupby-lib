import GroupbyVerif.Model.Rolling
import GroupbyVerif.Lemmas.Fold

/-!
# The circular buffer of the rolling kernels (single group)

After the history `h` of accepted values, slot `i % w` holds `h[i]` for the last `w` indices.  What the kernels keep
beside the buffer follows from two equations about the window `lastN w h`: the value about to be overwritten heads it
(`RingBuf.window`), and the next window is its last `w - 1` values followed by the new one (`lastN_snoc`).
-/

namespace GV

/-! `sumNN` and `cntNN` are the sum and the number of the non-null values (`sumNN_eq`, `cntNN_eq`), written as recursions
into `Int` so that the kernel's `± valInt v` / `± 1` updates of its accumulators cancel. -/

def sumNN (k : Kind) : List Val → Int
  | [] => 0
  | v :: xs => (if isNull k v then 0 else valInt v) + sumNN k xs

def cntNN (k : Kind) : List Val → Int
  | [] => 0
  | v :: xs => (if isNull k v then 0 else 1) + cntNN k xs

theorem sumNN_append (k : Kind) (a b : List Val) : sumNN k (a ++ b) = sumNN k a + sumNN k b := by
  induction a with
  | nil => rw [List.nil_append, sumNN, Int.zero_add]
  | cons x xs ih => rw [List.cons_append, sumNN, sumNN, ih, Int.add_assoc]

theorem cntNN_append (k : Kind) (a b : List Val) : cntNN k (a ++ b) = cntNN k a + cntNN k b := by
  induction a with
  | nil => rw [List.nil_append, cntNN, Int.zero_add]
  | cons x xs ih => rw [List.cons_append, cntNN, cntNN, ih, Int.add_assoc]

theorem sumNN_eq (k : Kind) (l : List Val) : sumNN k l = ((nonNull k l).map valInt).sum := by
  induction l with
  | nil => simp [sumNN, nonNull]
  | cons x xs ih =>
    by_cases h : isNull k x = true
    · simp [sumNN, nonNull, h] at ih ⊢; exact ih
    · simp [sumNN, nonNull, h] at ih ⊢; omega

theorem cntNN_eq (k : Kind) (l : List Val) : cntNN k l = ((nonNull k l).length : Int) := by
  induction l with
  | nil => simp [cntNN, nonNull]
  | cons x xs ih =>
    by_cases h : isNull k x = true
    · simp [cntNN, nonNull, h] at ih ⊢; exact ih
    · simp [cntNN, nonNull, h] at ih ⊢; omega

theorem lastN_snoc {α : Type} (w : Nat) (hw : 0 < w) (h : List α) (v : α) :
    lastN w (h ++ [v]) = lastN (w - 1) h ++ [v] := by
  obtain ⟨w, rfl⟩ := Nat.exists_eq_add_one_of_ne_zero (Nat.ne_of_gt hw)
  rw [Nat.add_sub_cancel, lastN, lastN, List.length_append, List.length_singleton, Nat.add_sub_add_right]
  exact List.drop_append_of_le_length (Nat.sub_le _ _)

theorem lastN_eq_cons {α : Type} (w : Nat) (hw : 0 < w) (h : List α) (hf : w ≤ h.length) :
    lastN w h = h[h.length - w]'(Nat.sub_lt_of_pos_le hw hf) :: lastN (w - 1) h := by
  obtain ⟨w, rfl⟩ := Nat.exists_eq_add_one_of_ne_zero (Nat.ne_of_gt hw)
  have e : h.length - w = h.length - (w + 1) + 1 := (Nat.sub_add_cancel (Nat.sub_pos_of_lt hf)).symm
  rw [Nat.add_sub_cancel, lastN, lastN, e]
  exact List.drop_eq_getElem_cons _

theorem lastN_of_length_le {α : Type} (w : Nat) (h : List α) (hl : h.length ≤ w) : lastN w h = h := by
  unfold lastN
  rw [Nat.sub_eq_zero_of_le hl, List.drop_zero]

/-- the buffer after the history `h`.  `RInv` and `MInv` repeat these four fields instead of extending the structure,
because they are cited field by field (`MInv.slot`, ..); `RInv.ring` and `MInv.ring` repack them -/
structure RingBuf (w : Nat) (h : List Val) (s : RS) : Prop where
  len : s.buf.length = w
  pos : s.pos = h.length % w
  seen : s.nSeen = min h.length w
  slot : ∀ i, h.length - w ≤ i → (hi : i < h.length) → s.buf[i % w]? = some h[i]

/-- what the next accepted row overwrites: nothing while the window fills -/
def evicted (k : Kind) (w : Nat) (s : RS) : List Val :=
  if s.nSeen ≥ w then [s.buf.getD s.pos (nullValue k)] else []

theorem RingBuf.full_iff {w : Nat} {h : List Val} {s : RS} (r : RingBuf w h s) : s.nSeen ≥ w ↔ w ≤ h.length := by
  rw [r.seen]; exact Nat.le_min.trans ⟨fun h => h.1, fun h => ⟨h, Nat.le_refl w⟩⟩

theorem RingBuf.oldest {w : Nat} {h : List Val} {s : RS} (r : RingBuf w h s) (hw : 0 < w) (hf : w ≤ h.length)
    (d : Val) : s.buf.getD s.pos d = h[h.length - w]'(Nat.sub_lt_of_pos_le hw hf) := by
  have := r.slot (h.length - w) (Nat.le_refl _) (Nat.sub_lt_of_pos_le hw hf)
  rw [← Nat.mod_eq_sub_mod hf, ← r.pos] at this
  rw [List.getD_eq_getElem?_getD, this, Option.getD_some]

theorem RingBuf.window {w : Nat} {h : List Val} {s : RS} (r : RingBuf w h s) (hw : 0 < w) (k : Kind) :
    lastN w h = evicted k w s ++ lastN (w - 1) h := by
  unfold evicted
  by_cases hf : w ≤ h.length
  · rw [if_pos (r.full_iff.mpr hf), r.oldest hw hf, lastN_eq_cons w hw h hf]; rfl
  · have hlt := Nat.not_le.mp hf
    rw [if_neg (mt r.full_iff.mp hf), lastN_of_length_le w h (Nat.le_of_lt hlt),
      lastN_of_length_le (w - 1) h (Nat.le_sub_one_of_lt hlt)]; rfl

theorem mod_ne_of_near {w i n : Nat} (h1 : i < n) (h2 : n < i + w) : n % w ≠ i % w := fun e =>
  Nat.not_le_of_lt (Nat.sub_lt_left_of_lt_add (Nat.le_of_lt h1) h2)
    (Nat.le_of_dvd (Nat.sub_pos_of_lt h1) (Nat.dvd_of_mod_eq_zero (Nat.sub_mod_eq_zero_of_mod_eq e)))

/-- `hb hp hn`: what `rstep` and `mstep` do to the buffer; both discharge them by `rfl` -/
theorem RingBuf.push {w : Nat} {h : List Val} {s s' : RS} (r : RingBuf w h s) (hw : 0 < w) (v : Val)
    (hb : s'.buf = s.buf.set s.pos v) (hp : s'.pos = (s.pos + 1) % w)
    (hn : s'.nSeen = if decide (s.nSeen ≥ w) then s.nSeen else s.nSeen + 1) : RingBuf w (h ++ [v]) s' := by
  have hlen : (h ++ [v]).length = h.length + 1 := List.length_append
  refine ⟨by rw [hb, List.length_set, r.len], by rw [hp, r.pos, hlen, Nat.mod_add_mod], ?_, ?_⟩
  · rw [hn, hlen]
    by_cases hf : w ≤ h.length
    · rw [if_pos (decide_eq_true (r.full_iff.mpr hf)), r.seen, Nat.min_eq_right hf,
        Nat.min_eq_right (Nat.le_succ_of_le hf)]
    · rw [if_neg (mt of_decide_eq_true (mt r.full_iff.mp hf)), r.seen, Nat.min_eq_left (Nat.le_of_not_le hf),
        Nat.min_eq_left (Nat.not_le.mp hf)]
  · intro i hlo hi
    rw [hlen] at hlo hi
    rw [hb]
    rcases Nat.lt_or_eq_of_le (Nat.le_of_lt_succ hi) with hi' | rfl
    · -- an older index of the new window: it was in the old window, and its slot is not the one written
      have h1 : h.length < i + w := Nat.sub_le_iff_le_add.mp hlo
      have h2 : h.length - w ≤ i := Nat.le_trans (Nat.sub_le_sub_right (Nat.le_succ _) w) hlo
      rw [List.getElem?_set_ne (r.pos ▸ mod_ne_of_near hi' h1), r.slot i h2 hi', List.getElem_append_left hi']
    · rw [← r.pos, List.getElem?_set_self (by rw [r.len, r.pos]; exact Nat.mod_lt _ hw)]
      simp

structure RInv (k : Kind) (w : Nat) (h : List Val) (s : RS) : Prop where
  len : s.buf.length = w
  pos : s.pos = h.length % w
  seen : s.nSeen = min h.length w
  slot : ∀ i, h.length - w ≤ i → (hi : i < h.length) → s.buf[i % w]? = some h[i]
  sum : s.sum = sumNN k (lastN w h)
  nn : s.nn = cntNN k (lastN w h)

theorem RInv.ring {k : Kind} {w : Nat} {h : List Val} {s : RS} (inv : RInv k w h s) : RingBuf w h s :=
  ⟨inv.len, inv.pos, inv.seen, inv.slot⟩

theorem rstep_acc (k : Kind) (w : Nat) (s : RS) (v : Val) :
    (rstep k w s v).sum = s.sum - sumNN k (evicted k w s) + sumNN k [v] ∧
    (rstep k w s v).nn = s.nn - cntNN k (evicted k w s) + cntNN k [v] := by
  simp only [rstep, evicted]
  generalize s.buf.getD s.pos (nullValue k) = old
  -- each of "full", "old null", "`v` null" switches one summand to 0
  by_cases hf : s.nSeen ≥ w <;> by_cases ho : isNull k old = true <;> by_cases hv : isNull k v = true <;>
    simp [hf, ho, hv, sumNN, cntNN]

theorem rinv_init (k : Kind) (w : Nat) : RInv k w [] (rinit k w) := by
  constructor <;> simp [rinit, lastN, sumNN, cntNN]

theorem rinv_step (k : Kind) (w : Nat) (hw : 0 < w) (h : List Val) (s : RS) (v : Val)
    (inv : RInv k w h s) : RInv k w (h ++ [v]) (rstep k w s v) := by
  have r := inv.ring.push hw v (s' := rstep k w s v) rfl rfl rfl
  have hwin := inv.ring.window hw k
  refine ⟨r.len, r.pos, r.seen, r.slot, ?_, ?_⟩
  · rw [(rstep_acc k w s v).1, inv.sum, hwin, lastN_snoc w hw, sumNN_append, sumNN_append,
      Int.add_comm (sumNN k (evicted k w s)), Int.add_sub_cancel]
  · rw [(rstep_acc k w s v).2, inv.nn, hwin, lastN_snoc w hw, cntNN_append, cntNN_append,
      Int.add_comm (cntNN k (evicted k w s)), Int.add_sub_cancel]

/-- every reachable state of one group satisfies the ring invariant w.r.t. its history -/
theorem rinv_fold (k : Kind) (w : Nat) (hw : 0 < w) (hist : List Val) :
    RInv k w hist (hist.foldl (rstep k w) (rinit k w)) :=
  foldl_hist_inv (RInv k w) (rstep k w) (rinit k w) (rinv_init k w) (rinv_step k w hw) hist

end GV
