import GroupbyVerif.Model.GroupBy
import GroupbyVerif.Lemmas.Factorize
import GroupbyVerif.Lemmas.Dispatch
import GroupbyVerif.Lemmas.Reducers

/-!
# Lemmas for the end-to-end theorem of the public reduction pipeline (C01)

`modelReduce` runs the kernels on rows whose keys are replaced by codes: selection commutes with that row-wise map, and
among coded rows the group `g` is the set of rows whose key is `labels[g]`; a label is observed iff some selected row
carries it.
-/

namespace GV.Pipe
open GV

theorem selectBool_map {α β : Type} (f : α → β) (xs : List α) (m : List Bool) :
    selectBool (xs.map f) m = (selectBool xs m).map f := by
  unfold selectBool
  induction xs generalizing m with
  | nil => simp
  | cons x xs ih =>
    cases m with
    | nil => simp
    | cons b m =>
      simp only [List.map_cons, List.zip_cons_cons, List.filter_cons]
      cases b <;> simp [ih]

theorem posAt_map {α β : Type} (f : α → β) (xs : List α) (p : Int) : posAt (xs.map f) p = (posAt xs p).map f := by
  unfold posAt
  rw [List.length_map]
  by_cases h : normIdx xs.length p < 0
  · simp only [if_pos h, Option.map_none]
  · simp only [if_neg h, List.getElem?_map]

theorem takePositions_map {α β : Type} (f : α → β) (xs : List α) (ps : List Int) :
    takePositions (xs.map f) ps = (takePositions xs ps).map (List.map f) := by
  induction ps with
  | nil => rfl
  | cons p ps ih =>
    simp only [takePositions_eq] at ih ⊢
    rw [List.mapM_cons, List.mapM_cons, ih, posAt_map]
    cases posAt xs p <;> cases ps.mapM (posAt xs) <;> rfl

theorem selectGen_map {α β : Type} (f : α → β) (xs : List α) (m : Mask) :
    selectGen (xs.map f) m = (selectGen xs m).map (List.map f) := by
  cases m with
  | none => simp [selectGen]
  | bool m =>
    simp only [selectGen, List.length_map]
    split
    · simp [selectBool_map]
    · simp
  | slice a b => simp [selectGen, sliceSel, List.map_take, List.map_drop]
  | pos p => simp [selectGen, takePositions_map]

theorem codeOf_eq_ofNat_iff {κ : Type} [DecidableEq κ] (labels : List κ) (hnd : labels.Nodup) (ky : Option κ) (hk : ∀ x, ky = some x → x ∈ labels)
    (g : Nat) (hg : g < labels.length) : codeOf labels ky = Int.ofNat g ↔ ky = some labels[g] :=
  codeOf_eq_ofNat labels hnd ky g hg

theorem filter_ne_nil_iff_mem_filterMap {α β : Type} [DecidableEq β] (l : List α) (f : α → Option β) (b : β) :
    l.filter (fun a => decide (f a = some b)) ≠ [] ↔ b ∈ l.filterMap f := by
  simp [List.mem_filterMap, List.filter_eq_nil_iff]

theorem selectRows_map {α : Type} (c : α → Row) (rows : List α) (mask : Mask) (sel : List α)
    (h : selectGen rows mask = some sel) : selectRows (rows.map c) mask = some (sel.map c) := by
  rw [selectRows, selectGen_map, h]; rfl

/-- label `g` is written `labels.getD g []`, the way `modelReduce` reads it; under `hg` the default is never read -/
theorem valsOf_coded {α : Type} (labels : List Key) (hnd : labels.Nodup) (sel : List (Option Key × α))
    (f : Option Key × α → Val) (g : Nat) (hg : g < labels.length) :
    valsOf (sel.map fun r => (codeOf labels r.1, f r)) (Int.ofNat g)
      = (sel.filter fun r => decide (r.1 = some (labels.getD g []))).map f := by
  rw [valsOf, List.filter_map, List.map_map, ← List.getElem_eq_getD (h := hg) []]
  exact congrArg (List.map f) (List.filter_congr fun r _ => decide_eq_decide.mpr (codeOf_eq_ofNat labels hnd r.1 g hg))

theorem blocksOf_single (rows : List Row) (mask : Mask) (blocks : List (List Row))
    (h : blocksOf rows mask 1 none = some blocks) : ∃ b, blocks = [b] := by
  cases mask with
  | none => exact ⟨_, (Option.some.inj h).symm⟩
  | bool m =>
    have h' : (if m.length = rows.length then some [selectBool rows m] else none) = some blocks := h
    split at h'
    · exact ⟨_, (Option.some.inj h').symm⟩
    · cases h'
  | slice a b => exact ⟨_, (Option.some.inj h).symm⟩
  | pos p =>
    obtain ⟨b, -, hb⟩ := Option.map_eq_some_iff.mp (h : (takePositions rows p).map (fun b => [b]) = some blocks)
    exact ⟨b, hb.symm⟩

/-- the size kernel on one thread: per group the number of selected rows -/
theorem size_kernel_count (rows : List Row) (mask : Mask) (cnt : Int → Partial)
    (hm : ∀ m, mask = .bool m → m.length = rows.length)
    (h : groupKernel modelReducers .size (.i 64) rows mask 1 none = some cnt) :
    ∃ sel, selectRows rows mask = some sel ∧ ∀ g, 0 ≤ g → (cnt g).2 = (valsOf sel g).length := by
  unfold groupKernel at h
  cases hb : blocksOf rows mask 1 none with
  | none => simp [hb] at h
  | some blocks =>
    obtain ⟨b, rfl⟩ := blocksOf_single rows mask blocks hb
    have hsel := blocksOf_flatten rows mask 1 none [b] hm hb
    simp only [hb, Option.some.injEq] at h
    subst h
    refine ⟨b, by simpa using hsel, ?_⟩
    intro g hg
    rw [groupByReduce_at _ _ _ _ hg, runRed_eq_spec]
    simp [specKernel]

theorem specKernel_count_pos (kn : Kernel) (k : Kind) (vs : List Val) (h : (specKernel kn k vs).2 > 0) : vs ≠ [] := by
  intro hc
  subst hc
  cases kn <;> simp [specKernel, nonNull] at h

/-- the rows of the key-count call in `modelReduce`: the codes, with themselves as values -/
theorem zip_codes_codes (labels : List Key) (keys : List (Option Key)) (vals : List Val) (hlen : keys.length = vals.length) :
    (keys.map (codeOf labels)).zip ((keys.map (codeOf labels)).map Val.num)
      = (keys.zip vals).map (fun r => (codeOf labels r.1, Val.num (codeOf labels r.1))) := by
  rw [List.map_map, List.zip_map']
  conv => lhs; rw [← List.map_fst_zip (l₂ := vals) (Nat.le_of_eq hlen), List.map_map]
  rfl

end GV.Pipe
