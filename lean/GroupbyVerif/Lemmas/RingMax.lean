import GroupbyVerif.Lemmas.Ring
import GroupbyVerif.Lemmas.Reducers

/-!
# Ring-buffer invariant of the rolling max / min kernel (`_rolling_max_or_min_1d`)

The kernel keeps the running extremum incrementally while the window fills, replaces it when the new value
is at least as good, and otherwise - once the window is full - recomputes it by a scan of the circular
buffer (`min_or_max_and_position`).  A full buffer has the same members as the window (`buf_mem_iff`) and an extremum
depends on membership alone, so the scan finds the window's; the invariant `MInv` states that the kept extremum is the
extremum of the non-null values of the window.
-/

namespace GV

/-- non-null values of a list, as integers -/
def nnInts (k : Kind) (l : List Val) : List Int := (nonNull k l).map valInt

/-- `m` is the greatest (least) element of `l` -/
def IsExt (wantMax : Bool) (l : List Int) (m : Int) : Prop :=
  m ∈ l ∧ ∀ x ∈ l, if wantMax then x ≤ m else m ≤ x

/-- `x` is no better than `y`.  `IsExt` writes this comparison out because the statements the property C09 cites
(`MInv.best`, `minOrMax_isExt`, `extremum_isExt`) are read with it unfolded; `extLe` names it for the order lemmas.  The
second component of `IsExt b l m` unfolds to `∀ x ∈ l, extLe b x m`: the lemmas below pass between the two forms
without a rewrite (`IsExt.le`, the anonymous constructor) -/
def extLe (b : Bool) (x y : Int) : Prop := if b then x ≤ y else y ≤ x

instance (b : Bool) (x y : Int) : Decidable (extLe b x y) := by unfold extLe; infer_instance

theorem extLe_refl (b : Bool) (x : Int) : extLe b x x := by cases b <;> exact Int.le_refl x

theorem extLe_trans {b : Bool} {x y z : Int} : extLe b x y → extLe b y z → extLe b x z := by
  cases b with
  | false => exact fun h1 h2 => Int.le_trans h2 h1
  | true => exact fun h1 h2 => Int.le_trans h1 h2

theorem extLe_of_not {b : Bool} {x y : Int} : ¬ extLe b x y → extLe b y x := by
  cases b with
  | false => exact fun h => Int.le_of_lt (Int.not_le.mp h)
  | true => exact fun h => Int.le_of_lt (Int.not_le.mp h)

theorem extLe_antisymm {b : Bool} {x y : Int} : extLe b x y → extLe b y x → x = y := by
  cases b with
  | false => exact fun h1 h2 => Int.le_antisymm h2 h1
  | true => exact fun h1 h2 => Int.le_antisymm h1 h2

theorem cmp_num (b : Bool) (n m : Int) :
    (if b then (Val.num n).ge (.num m) else (Val.num n).le (.num m)) = true ↔ extLe b m n := by
  cases b <;> simp [Val.ge, Val.le, extLe]

theorem pick_eq (b : Bool) (a c : Int) : (if b then max a c else min a c) = if extLe b a c then c else a := by
  cases b with
  | false => exact (Int.min_comm a c).trans (Int.min_def c a)
  | true => exact Int.max_def a c

theorem IsExt.le {b : Bool} {l : List Int} {m : Int} (h : IsExt b l m) {x : Int} (hx : x ∈ l) : extLe b x m :=
  h.2 x hx

theorem isExt_snoc_self {b : Bool} {l : List Int} {n : Int} (h : ∀ y ∈ l, extLe b y n) : IsExt b (l ++ [n]) n :=
  ⟨List.mem_append_right _ (List.mem_singleton_self n),
    List.forall_mem_append.mpr ⟨h, List.forall_mem_singleton.mpr (extLe_refl b n)⟩⟩

theorem isExt_singleton (b : Bool) (n : Int) : IsExt b [n] n :=
  isExt_snoc_self (l := []) fun _ hy => nomatch hy

theorem IsExt.snoc_new {b : Bool} {l : List Int} {m : Int} (h : IsExt b l m) {x : Int} (c : extLe b m x) :
    IsExt b (l ++ [x]) x :=
  isExt_snoc_self fun _ hy => extLe_trans (h.le hy) c

theorem IsExt.snoc_keep {b : Bool} {l : List Int} {m : Int} (h : IsExt b l m) {x : Int} (c : extLe b x m) :
    IsExt b (l ++ [x]) m :=
  ⟨List.mem_append_left _ h.1, List.forall_mem_append.mpr ⟨h.2, List.forall_mem_singleton.mpr c⟩⟩

theorem IsExt.foldl {b : Bool} {l : List Int} {m : Int} (h : IsExt b l m) (xs : List Int) :
    IsExt b (l ++ xs) (xs.foldl (fun a x => if extLe b a x then x else a) m) := by
  induction xs generalizing l m with
  | nil => rwa [List.append_nil]
  | cons x xs ih =>
    rw [List.append_cons, List.foldl_cons]
    split
    next c => exact ih (h.snoc_new c)
    next c => exact ih (h.snoc_keep (extLe_of_not c))

theorem extremum_isExt (b : Bool) (l : List Int) (m : Int) : extremum b l = some m ↔ IsExt b l m := by
  cases l with
  | nil => simp [extremum, IsExt]
  | cons x xs =>
    have h : IsExt b (x :: xs) _ := (isExt_singleton b x).foldl xs
    simp only [extremum, pick_eq, Option.some.injEq]
    exact ⟨fun e => e ▸ h, fun h' => extLe_antisymm (h'.le h.1) (h.le h'.1)⟩

/-- the fold of a combiner that is `max` / `min` on numbers ends at a number, the extremum of the list -/
theorem foldl_ext_char (b : Bool) (comb : Val → Val → Val)
    (h : ∀ a c, comb (.num a) (.num c) = .num (if b then max a c else min a c)) (xs : List Int) (a : Int) :
    ∃ m, (xs.map Val.num).foldl comb (.num a) = .num m ∧ IsExt b (a :: xs) m := by
  -- the witness is left to unification: `extremum b (a :: xs)` is `some` of the integer fold, by `rfl`
  refine ⟨_, ?_, (extremum_isExt b (a :: xs) _).mp rfl⟩
  induction xs generalizing a with
  | nil => rfl
  | cons z zs ih => rw [List.map_cons, List.foldl_cons, h, ih]; rfl

theorem nnInts_cons_null (k : Kind) (v : Val) (l : List Val) (h : isNull k v = true) : nnInts k (v :: l) = nnInts k l := by
  simp [nnInts, nonNull, h]

theorem nnInts_cons_num (k : Kind) (n : Int) (l : List Val) (h : isNull k (.num n) = false) :
    nnInts k (.num n :: l) = n :: nnInts k l := by
  simp [nnInts, nonNull, h, valInt]

theorem nnInts_append (k : Kind) (a b : List Val) : nnInts k (a ++ b) = nnInts k a ++ nnInts k b := by
  simp [nnInts, nonNull]

theorem mem_nnInts (k : Kind) (l : List Val) (x : Int) : x ∈ nnInts k l ↔ ∃ v ∈ l, isNull k v = false ∧ valInt v = x := by
  simp [nnInts, nonNull, List.mem_map, List.mem_filter, and_assoc]

theorem nnInts_length (k : Kind) (l : List Val) : ((nnInts k l).length : Int) = cntNN k l := by
  rw [cntNN_eq]; simp [nnInts]

theorem nnInts_eq_nil_iff (k : Kind) (l : List Val) : nnInts k l = [] ↔ cntNN k l = 0 := by
  rw [← nnInts_length, ← List.length_eq_zero_iff]; omega

/-! ### `min_or_max_and_position` -/

/-- the lambda is the scan step of `minOrMax` -/
theorem IsExt.scan {k : Kind} {b : Bool} {l : List Int} {m : Int} (h : IsExt b l m) (vs : List Val)
    (hwf : ∀ v ∈ vs, WF k v) :
    ∃ m', vs.foldl (fun best v =>
        if isNull k v then best else if (if b then v.ge best else v.le best) then v else best) (.num m) = .num m' ∧
      IsExt b (l ++ nnInts k vs) m' := by
  induction vs generalizing l m with
  | nil => exact ⟨m, rfl, by rwa [show nnInts k [] = [] from rfl, List.append_nil]⟩
  | cons v vs ih =>
    have hwf' : ∀ v ∈ vs, WF k v := fun x hx => hwf x (List.mem_cons_of_mem _ hx)
    rw [List.foldl_cons]
    by_cases hn : isNull k v = true
    · rw [if_pos hn, nnInts_cons_null k v vs hn]
      exact ih h hwf'
    · have hn' : isNull k v = false := by simpa using hn
      obtain ⟨n, rfl⟩ := wf_nonnull_num (hwf v (List.mem_cons_self ..)) hn'
      rw [if_neg hn, nnInts_cons_num k n vs hn', List.append_cons]
      by_cases c : extLe b m n
      · rw [if_pos ((cmp_num b n m).mpr c)]; exact ih (h.snoc_new c) hwf'
      · rw [if_neg (mt (cmp_num b n m).mp c)]; exact ih (h.snoc_keep (extLe_of_not c)) hwf'

theorem nonNull_dropWhile (k : Kind) (arr : List Val) : nonNull k (arr.dropWhile (fun v => isNull k v)) = nonNull k arr := by
  induction arr with
  | nil => rfl
  | cons x xs ih =>
    by_cases h : isNull k x = true
    · simp [h, nonNull] at ih ⊢; exact ih
    · simp [h]

theorem minOrMax_mem (k : Kind) (b : Bool) (l : List Val) (hne : l ≠ []) : minOrMax k b l ∈ l := by
  unfold minOrMax
  cases hd : l.dropWhile (fun v => isNull k v) with
  | nil =>
    rw [List.getLastD_eq_getLast?, List.getLast?_eq_some_getLast hne]
    exact List.getLast_mem hne
  | cons x vs =>
    refine (List.dropWhile_sublist _).subset (hd ▸ foldl_sel_mem _ (fun best v => ?_) vs x)
    by_cases hn : isNull k v = true
    · rw [if_pos hn]; exact Or.inl rfl
    · by_cases hc : (if b then v.ge best else v.le best) = true
      · rw [if_neg hn, if_pos hc]; exact Or.inr rfl
      · rw [if_neg hn, if_neg hc]; exact Or.inl rfl

/-- **`min_or_max_and_position`** returns the extremum of the non-null values (when there is one) -/
theorem minOrMax_isExt (k : Kind) (b : Bool) (arr : List Val) (hwf : ∀ v ∈ arr, WF k v) (hne : nnInts k arr ≠ []) :
    ∃ m, minOrMax k b arr = .num m ∧ IsExt b (nnInts k arr) m := by
  have hd : nnInts k (arr.dropWhile (fun v => isNull k v)) = nnInts k arr := congrArg (List.map valInt) (nonNull_dropWhile k arr)
  have hsub := (List.dropWhile_sublist (fun v => isNull k v) (l := arr)).subset
  have hhead := List.head?_dropWhile_not (fun v => isNull k v) arr
  unfold minOrMax
  cases hr : arr.dropWhile (fun v => isNull k v) with
  | nil => rw [hr] at hd; exact absurd hd.symm hne
  | cons b0 vs =>
    rw [hr] at hd hsub hhead
    have hb0 : isNull k b0 = false := by simpa using hhead
    obtain ⟨n0, rfl⟩ := wf_nonnull_num (hwf _ (hsub (List.mem_cons_self ..))) hb0
    rw [← hd, nnInts_cons_num k n0 vs hb0]
    exact (isExt_singleton b n0).scan vs fun v hv => hwf v (hsub (List.mem_cons_of_mem _ hv))

/-- for every residue `j` there is an index of the (full) window with that residue -/
theorem window_cover (w n j : Nat) (hw : 0 < w) (hn : w ≤ n) (hj : j < w) : ∃ i, n - w ≤ i ∧ i < n ∧ i % w = j := by
  -- the index whose offset from the start of the window is `j - start` modulo `w`
  have hr : (n - w) % w ≤ j + w := Nat.le_trans (Nat.le_of_lt (Nat.mod_lt _ hw)) (Nat.le_add_left _ _)
  refine ⟨n - w + (j + w - (n - w) % w) % w, Nat.le_add_right _ _, ?_, ?_⟩
  · have := Nat.mod_lt (j + w - (n - w) % w) hw
    omega
  · rw [Nat.add_mod_mod, ← Nat.mod_add_mod, Nat.add_sub_cancel' hr, Nat.add_mod_right, Nat.mod_eq_of_lt hj]

/-- invariant of one group's state in the max / min kernel w.r.t. the group's history of accepted values -/
structure MInv (k : Kind) (w : Nat) (b : Bool) (h : List Val) (s : RS) : Prop where
  len : s.buf.length = w
  pos : s.pos = h.length % w
  seen : s.nSeen = min h.length w
  slot : ∀ i, h.length - w ≤ i → (hi : i < h.length) → s.buf[i % w]? = some h[i]
  nn : s.nn = cntNN k (lastN w h)
  best : nnInts k (lastN w h) ≠ [] → ∃ m, s.best = .num m ∧ IsExt b (nnInts k (lastN w h)) m

theorem MInv.ring {k : Kind} {w : Nat} {b : Bool} {h : List Val} {s : RS} (inv : MInv k w b h s) : RingBuf w h s :=
  ⟨inv.len, inv.pos, inv.seen, inv.slot⟩

theorem minv_init (k : Kind) (w : Nat) (b : Bool) : MInv k w b [] (rinit k w) := by
  constructor <;> simp [rinit, lastN, cntNN, nnInts, nonNull]

/-- with a full window the buffer holds exactly the window's values -/
theorem buf_mem_iff (w : Nat) (hw : 0 < w) (h : List Val) (buf : List Val) (hlen : buf.length = w)
    (hslot : ∀ i, h.length - w ≤ i → (hi : i < h.length) → buf[i % w]? = some h[i])
    (hfull : w ≤ h.length) (x : Val) : x ∈ buf ↔ x ∈ lastN w h := by
  rw [lastN, List.mem_drop_iff_getElem]
  constructor
  · intro hx
    obtain ⟨j, hj, rfl⟩ := List.getElem_of_mem hx
    obtain ⟨i, h1, h2, rfl⟩ := window_cover w h.length j hw hfull (hlen ▸ hj)
    obtain ⟨t, rfl⟩ := Nat.exists_eq_add_of_le h1
    exact ⟨t, Nat.add_comm _ _ ▸ h2, Option.some.inj ((hslot _ h1 h2).symm.trans (List.getElem?_eq_getElem hj))⟩
  · rintro ⟨t, ht, rfl⟩
    exact List.mem_of_getElem? (hslot _ (Nat.le_add_right _ _) (Nat.add_comm _ _ ▸ ht))

/-- `mNn1`, `mImproves`: the `nn1` and `improves` lets of `mstep`, named so that `mstep_best` holds by `rfl` -/
def mNn1 (k : Kind) (w : Nat) (s : RS) : Int :=
  if decide (s.nSeen ≥ w) && !isNull k (s.buf.getD s.pos (nullValue k)) then s.nn - 1 else s.nn

def mImproves (k : Kind) (w : Nat) (b : Bool) (s : RS) (v : Val) : Bool :=
  !isNull k v && (decide (mNn1 k w s = 0) || (if b then v.ge s.best else v.le s.best))

theorem mstep_best (k : Kind) (w : Nat) (b : Bool) (s : RS) (v : Val) :
    (mstep k w b s v).best =
      if decide (s.nSeen ≥ w) && !(mImproves k w b s v) then minOrMax k b (s.buf.set s.pos v)
      else (if mImproves k w b s v then v else s.best) := rfl

theorem mNn1_eq (k : Kind) (w : Nat) (s : RS) : mNn1 k w s = s.nn - cntNN k (evicted k w s) := by
  simp only [mNn1, evicted]
  generalize s.buf.getD s.pos (nullValue k) = old
  by_cases hf : s.nSeen ≥ w <;> by_cases ho : isNull k old = true <;> simp [hf, ho, cntNN]

theorem mImproves_iff (k : Kind) (w : Nat) (b : Bool) (s : RS) (v : Val) :
    mImproves k w b s v = true ↔
      isNull k v = false ∧ (mNn1 k w s = 0 ∨ (if b then v.ge s.best else v.le s.best) = true) := by
  simp [mImproves]

theorem minv_step (k : Kind) (w : Nat) (b : Bool) (hw : 0 < w) (h : List Val) (s : RS) (v : Val)
    (hwf : ∀ x ∈ h ++ [v], WF k x) (inv : MInv k w b h s) : MInv k w b (h ++ [v]) (mstep k w b s v) := by
  have r := inv.ring.push hw v (s' := mstep k w b s v) rfl rfl rfl
  have hwin := inv.ring.window hw k
  have hwin' := lastN_snoc w hw h v
  have hnn1 : mNn1 k w s = cntNN k (lastN (w - 1) h) := by
    rw [mNn1_eq, inv.nn, hwin, cntNN_append, Int.add_comm, Int.add_sub_cancel]
  refine ⟨r.len, r.pos, r.seen, r.slot, ?_, ?_⟩
  · -- `mstep` updates `nn` by the same expression as `rstep`
    show (rstep k w s v).nn = _
    rw [(rstep_acc k w s v).2, inv.nn, hwin, hwin', cntNN_append, cntNN_append,
      Int.add_comm (cntNN k (evicted k w s)), Int.add_sub_cancel]
  intro hne
  have hwfv : WF k v := hwf v (by simp)
  rw [mstep_best]
  by_cases himp : mImproves k w b s v = true
  · -- the new value is at least as good as the kept extremum, hence as everything that stays in the window
    rw [himp, Bool.not_true, Bool.and_false, if_neg Bool.false_ne_true, if_pos rfl]
    obtain ⟨hvn, hc⟩ := (mImproves_iff k w b s v).mp himp
    obtain ⟨n, rfl⟩ := wf_nonnull_num hwfv hvn
    refine ⟨n, rfl, ?_⟩
    rw [hwin', nnInts_append, nnInts_cons_num k n [] hvn]
    refine isExt_snoc_self fun y hy => ?_
    have hy' : y ∈ nnInts k (lastN w h) := by rw [hwin, nnInts_append]; exact List.mem_append_right _ hy
    rcases hc with hz | hge
    · rw [(nnInts_eq_nil_iff k _).mpr (hnn1 ▸ hz)] at hy; cases hy
    · obtain ⟨m, hm1, hm2⟩ := inv.best (List.ne_nil_of_mem hy')
      rw [hm1] at hge
      exact extLe_trans (hm2.le hy') ((cmp_num b n m).mp hge)
  · have himp' : mImproves k w b s v = false := Bool.eq_false_iff.mpr himp
    rw [himp', Bool.not_false, Bool.and_true, if_neg Bool.false_ne_true]
    by_cases hfull : w ≤ h.length
    · -- the extremum is recomputed from the buffer, which holds exactly the new window
      rw [if_pos (decide_eq_true (inv.ring.full_iff.mpr hfull))]
      have hmem := buf_mem_iff w hw (h ++ [v]) _ r.len r.slot (List.length_append ▸ Nat.le_succ_of_le hfull)
      have hnn_mem : ∀ x, x ∈ nnInts k (s.buf.set s.pos v) ↔ x ∈ nnInts k (lastN w (h ++ [v])) := fun x => by
        rw [mem_nnInts, mem_nnInts]; exact exists_congr fun y => and_congr_left fun _ => hmem y
      obtain ⟨y, hy⟩ := List.exists_mem_of_ne_nil _ hne
      obtain ⟨m, hm1, hm2⟩ := minOrMax_isExt k b (s.buf.set s.pos v)
        (fun x hx => hwf x ((List.drop_sublist _ _).subset ((hmem x).mp hx)))
        (List.ne_nil_of_mem ((hnn_mem y).mpr hy))
      exact ⟨m, hm1, (hnn_mem m).mp hm2.1, fun x hx => hm2.le ((hnn_mem x).mpr hx)⟩
    · -- the window is still filling: nothing leaves, the kept extremum stays the best
      rw [if_neg (mt of_decide_eq_true (mt inv.ring.full_iff.mp hfull))]
      have hT : lastN (w - 1) h = lastN w h := by
        rw [hwin, evicted, if_neg (mt inv.ring.full_iff.mp hfull)]; rfl
      rw [hT] at hnn1 hwin'
      rw [hwin', nnInts_append] at hne ⊢
      by_cases hvn : isNull k v = true
      · rw [nnInts_cons_null k v [] hvn, show nnInts k [] = [] from rfl, List.append_nil] at hne ⊢
        exact inv.best hne
      · have hvn' : isNull k v = false := by simpa using hvn
        obtain ⟨n, rfl⟩ := wf_nonnull_num hwfv hvn'
        have hno := mt (mImproves_iff k w b s (.num n)).mpr himp
        obtain ⟨hnz, hcmp⟩ : mNn1 k w s ≠ 0 ∧ ¬ (if b then (Val.num n).ge s.best else (Val.num n).le s.best) = true :=
          ⟨fun hz => hno ⟨hvn', .inl hz⟩, fun c => hno ⟨hvn', .inr c⟩⟩
        obtain ⟨m, hm1, hm2⟩ := inv.best (mt (nnInts_eq_nil_iff k _).mp (hnn1 ▸ hnz))
        rw [hm1] at hcmp
        rw [nnInts_cons_num k n [] hvn']
        exact ⟨m, hm1, hm2.snoc_keep (extLe_of_not (mt (cmp_num b n m).mpr hcmp))⟩

/-- every reachable state of one group satisfies the invariant w.r.t. its history -/
theorem minv_fold (k : Kind) (w : Nat) (b : Bool) (hw : 0 < w) (hist : List Val) (hwf : ∀ x ∈ hist, WF k x) :
    MInv k w b hist (hist.foldl (mstep k w b) (rinit k w)) :=
  foldl_hist_inv (fun h s => (∀ x ∈ h, WF k x) → MInv k w b h s) (mstep k w b) (rinit k w) (fun _ => minv_init k w b)
    (fun h s v ih hall => minv_step k w b hw h s v hall (ih fun x hx => hall x (List.mem_append_left _ hx))) hist hwf

theorem rollStep_extremum (k : Kind) (w : Nat) (b : Bool) : rollStep k (if b then .max else .min) w = mstep k w b := by
  cases b <;> rfl

theorem rollOut_extremum (k : Kind) (b : Bool) (w minp : Nat) (before after : RS) (v : Val) :
    rollOut k (if b then .max else .min) w minp before after v =
      if after.nn ≥ minp then (match after.best with | .num n => .num n | .nan => .null) else .null := by
  cases b <;> rfl

end GV
