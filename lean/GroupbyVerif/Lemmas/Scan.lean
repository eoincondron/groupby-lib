import GroupbyVerif.Lemmas.Fold
import GroupbyVerif.Lemmas.Imp
import GroupbyVerif.Model.Ema
import GroupbyVerif.Model.Rolling

/-!
# Row-aligned per-group scans

`loopGo` (defined in `Model/Ema.lean`) is to `groupFold` what a scan is to a fold (`loopGo_getElem?`); the cumulative loop
`cumGo` and the rolling loop `rollGo` are instances of it.
-/

namespace GV

theorem upd_self {σ : Type} (st : Int → σ) (g : Int) : upd st g (st g) = st := aset_self st g

theorem loopGo_cons {σ β ρ : Type} (step : σ → β → σ) (out : σ → β → ρ) (st : Int → σ) (r : Int × β)
    (rs : List (Int × β)) :
    loopGo step out st (r :: rs) =
      (if r.1 < 0 then none else some (out (st r.1) r.2)) :: loopGo step out (gstep step st r) rs := by
  simp only [loopGo, gstep]; split <;> rfl

theorem loopGo_length {σ β ρ : Type} (step : σ → β → σ) (out : σ → β → ρ) (m : Int → σ) (rows : List (Int × β)) :
    (loopGo step out m rows).length = rows.length := by
  induction rows generalizing m with
  | nil => rfl
  | cons r rs ih => rw [loopGo_cons, List.length_cons, ih, List.length_cons]

theorem loopGo_getElem? {σ β ρ : Type} (step : σ → β → σ) (out : σ → β → ρ) (st : Int → σ) (rows : List (Int × β))
    (i : Nat) :
    (loopGo step out st rows)[i]? =
      rows[i]?.map fun r => if r.1 < 0 then none else some (out (groupFold step st (rows.take i) r.1) r.2) := by
  induction rows generalizing st i with
  | nil => rfl
  | cons x xs ih =>
    rw [loopGo_cons]
    cases i with
    | zero => rfl
    | succ j => rw [List.getElem?_cons_succ, ih]; rfl

/-- **groups are independent**: the output at a row with a non-null key is computed from the fold over the earlier
rows of the same group alone -/
theorem loopGo_group {σ β ρ : Type} (step : σ → β → σ) (out : σ → β → ρ) (st : Int → σ) (rows : List (Int × β))
    (i : Nat) (r : Int × β) (hi : rows[i]? = some r) (hg : 0 ≤ r.1) :
    (loopGo step out st rows)[i]? =
      some (some (out ((((rows.take i).filter (fun x => x.1 = r.1)).map (·.2)).foldl step (st r.1)) r.2)) := by
  rw [loopGo_getElem?, hi, Option.map_some, if_neg (Int.not_lt.mpr hg), groupFold_spec _ _ _ _ hg]

theorem loopGo_null {σ β ρ : Type} (step : σ → β → σ) (out : σ → β → ρ) (st : Int → σ) (rows : List (Int × β))
    (i : Nat) (r : Int × β) (hi : rows[i]? = some r) (hg : r.1 < 0) : (loopGo step out st rows)[i]? = some none := by
  rw [loopGo_getElem?, hi, Option.map_some, if_pos hg]

theorem groupFold_single {σ α : Type} (f : σ → α → σ) (init : Int → σ) (xs : List α) :
    groupFold f init (xs.map fun x => ((0 : Int), x)) 0 = xs.foldl f (init 0) := by
  induction xs generalizing init with
  | nil => rfl
  | cons x xs ih => exact (ih (gstep f init (0, x))).trans (by simp [gstep, upd])

theorem selVals_cons (r : CRow) (rs : List CRow) (g : Int) :
    selVals (r :: rs) g = (if r.code = g ∧ r.sel = true then [r.val] else []) ++ selVals rs g := by
  unfold selVals
  by_cases h : r.code = g ∧ r.sel = true <;> simp [h]

theorem selVals_append (a b : List CRow) (g : Int) : selVals (a ++ b) g = selVals a g ++ selVals b g := by
  simp [selVals, List.filter_append]

theorem selVals_take_succ (rows : List CRow) (i : Nat) (r : CRow) (hi : rows[i]? = some r) (hs : r.sel = true) :
    selVals (rows.take (i + 1)) r.code = selVals (rows.take i) r.code ++ [r.val] := by
  rw [List.take_add_one, hi]
  simp [selVals, hs]

/-! ### the rolling loop: an unselected row is skipped like a null-key row -/

def rollRow (r : CRow) : Int × Val := (if r.sel then r.code else -1, r.val)

theorem rollGo_eq_loopGo (k : Kind) (op : RollOp) (w minp : Nat) (st : Int → RS) (rows : List CRow) :
    rollGo k op w minp st rows =
      loopGo (rollStep k op w) (fun s v => rollOut k op w minp s (rollStep k op w s v) v) st (rows.map rollRow) := by
  induction rows generalizing st with
  | nil => rfl
  | cons r rs ih =>
    simp only [rollGo, List.map_cons, loopGo, ih]
    cases hs : r.sel <;> simp [rollRow, hs]

theorem selVals_eq_rollRow (rows : List CRow) (g : Int) (hg : 0 ≤ g) :
    selVals rows g = (((rows.map rollRow).filter (fun x => x.1 = g)).map (·.2)) := by
  rw [List.filter_map, List.map_map, selVals]
  congr 1
  refine List.filter_congr fun r _ => ?_
  cases hs : r.sel <;> simp [rollRow, hs]
  omega

/-! ### the cumulative loop: an unselected row passes the group's running value through -/

def cumStep (red : Red) (s : Partial) (r : CRow) : Partial := if r.sel then pstep red s r.val else s

theorem cumGo_eq_loopGo (red : Red) (st : Int → Partial) (rows : List CRow) :
    cumGo red st rows = loopGo (cumStep red) (fun s r => (cumStep red s r).1) st (rows.map fun r => (r.code, r)) := by
  induction rows generalizing st with
  | nil => rfl
  | cons r rs ih =>
    simp only [cumGo, List.map_cons, loopGo, ih]
    cases hs : r.sel <;> simp [cumStep, hs, upd_self, pstep]

theorem foldl_cumStep (red : Red) (s : Partial) (rows : List CRow) (g : Int) :
    (rows.filter (fun r => r.code = g)).foldl (cumStep red) s = (selVals rows g).foldl (pstep red) s := by
  induction rows generalizing s with
  | nil => rfl
  | cons r rs ih =>
    rw [selVals_cons, List.filter_cons]
    by_cases hc : r.code = g
    · cases hs : r.sel <;> simp [hc, hs, cumStep, ih]
    · simp [hc, ih]

end GV
