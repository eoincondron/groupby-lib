import GroupbyVerif.Generated.Constants
import GroupbyVerif.LoopBridge.Ema
import Mathlib.Tactic.Ring
import Mathlib.Tactic.Positivity
import Mathlib.Algebra.Order.Field.Rat

/-!
# C10 — EMA is the normalised exponentially weighted mean, per group

A group's output depends on its own rows only; for one series the state is, up to one decay, the pair of weighted
sums of the history (relative to a reference time in the time-weighted variant), and the denominator is the numerator
of the series with every valid value replaced by 1.  `specEma` of `Model/Ema.lean` is compared with the model by the
driver on test inputs only: no theorem relates the two.  The last section says the same of the four translated
kernels, through the bridges of `LoopBridge/Ema.lean`.
-/

namespace GV.C10
open GV

/-- values of group `g`'s rows, in order -/
def groupVals {β : Type} (rows : List (Int × β)) (g : Int) : List β :=
  (rows.filter (fun r => r.1 = g)).map (·.2)

/-- **groups are independent**: the output at row `i` is a function of the rows of the same group
up to `i` only — for any step/output functions, any interleaving, any starting state -/
theorem loopGo_at {σ β ρ : Type} (step : σ → β → σ) (out : σ → β → ρ) (st : Int → σ) (rows : List (Int × β))
    (i : Nat) (r : Int × β) (hi : rows[i]? = some r) (hg : 0 ≤ r.1) :
    (loopGo step out st rows)[i]? = some (some (out ((groupVals (rows.take i) r.1).foldl step (st r.1)) r.2)) :=
  loopGo_group step out st rows i r hi hg

/-! ### single group: the state is the decayed weighted sums, the output the weighted mean -/

/-- the same function as `LoopBridge.runE` -/
def run (β : Rat) (xs : List (Option Rat)) : ESt := xs.foldl (emaStep β) eInit

theorem emaS_snoc (β : Rat) (xs : List (Option Rat)) (x : Option Rat) :
    emaS β (xs ++ [x]) = β * emaS β xs + (match x with | none => 0 | some v => v) := by
  induction xs with
  | nil => cases x <;> simp [emaS]
  | cons y ys ih =>
    simp only [List.cons_append, emaS, ih, List.length_append, List.length_singleton, pow_succ]
    cases y with
    | none => ring
    | some w => ring

theorem emaW_eq_emaS (β : Rat) (xs : List (Option Rat)) : emaW β xs = emaS β (xs.map (Option.map fun _ => 1)) := by
  induction xs with
  | nil => rfl
  | cons x xs ih => cases x <;> simp [emaW, emaS, ih]

theorem emaW_snoc (β : Rat) (xs : List (Option Rat)) (x : Option Rat) :
    emaW β (xs ++ [x]) = β * emaW β xs + (match x with | none => 0 | some _ => 1) := by
  rw [emaW_eq_emaS, emaW_eq_emaS, List.map_append, List.map_singleton, emaS_snoc]
  cases x <;> rfl

theorem emaW_nonneg (β : Rat) (hβ : 0 ≤ β) (xs : List (Option Rat)) : 0 ≤ emaW β xs := by
  induction xs with
  | nil => simp [emaW]
  | cons y ys ih => cases y <;> simp [emaW] <;> positivity

theorem run_snoc (β : Rat) (xs : List (Option Rat)) (x : Option Rat) :
    run β (xs ++ [x]) = emaStep β (run β xs) x := by
  simp [run, List.foldl_append]

/-- invariant: numerator and denominator are the weighted sums of the history, decayed once -/
theorem run_state (β : Rat) (xs : List (Option Rat)) :
    (run β xs).r = β * emaS β xs ∧ (run β xs).w = β * emaW β xs := by
  refine foldl_hist_inv (fun h s => s.r = β * emaS β h ∧ s.w = β * emaW β h) (emaStep β) eInit
    (by simp [emaS, emaW, eInit]) (fun h s x ⟨hr, hw⟩ => ?_) xs
  rw [emaS_snoc, emaW_snoc]
  cases x
  all_goals
    simp only [emaStep, hr, hw]
    constructor <;> ring

/-- **closed form**: at a valid row the output is the normalised exponentially weighted mean of the
valid observations of the group so far, with weight `β^(number of group rows elapsed)` -/
theorem ema_closed_form (β : Rat) (xs : List (Option Rat)) (v : Rat) :
    emaOut (run β xs) (some v) = some (emaS β (xs ++ [some v]) / emaW β (xs ++ [some v])) := by
  obtain ⟨hr, hw⟩ := run_state β xs
  simp only [emaOut, hr, hw, emaS_snoc, emaW_snoc]
  congr 1
  rw [add_comm (β * emaW β xs) 1, add_comm (β * emaS β xs) v]

/-- invalid rows (null value or masked) repeat the group's previous output -/
theorem invalid_repeats_previous (β : Rat) (xs : List (Option Rat)) :
    emaOut (run β xs) none = (run β xs).last ∧
    (run β (xs ++ [none])).last = (run β xs).last :=
  ⟨rfl, by rw [run_snoc]; rfl⟩

/-- after a valid row, `last` is that row's output -/
theorem last_is_output (β : Rat) (xs : List (Option Rat)) (v : Rat) :
    (run β (xs ++ [some v])).last = emaOut (run β xs) (some v) := by
  rw [run_snoc]; rfl

/-- a group's output is null until its first valid observation -/
theorem null_until_first_valid (β : Rat) (xs : List (Option Rat)) (h : ∀ x ∈ xs, x = none) :
    (run β xs).last = none := by
  refine foldl_hist_inv (fun l s => (∀ x ∈ l, x = none) → s.last = none) (emaStep β) eInit (fun _ => rfl)
    (fun l s x ih hl => ?_) xs h
  rw [hl x (by simp)]
  exact ih fun y hy => hl y (by simp [hy])

/-- grouped output at row `i` = single-group output over the group's own history (any interleaving) -/
theorem grouped_eq_single_group (β : Rat) (rows : List (Int × Option Rat)) (i : Nat) (r : Int × Option Rat)
    (hi : rows[i]? = some r) (hg : 0 ≤ r.1) :
    (emaGrouped β rows)[i]? = some (some (emaOut (run β (groupVals (rows.take i) r.1)) r.2)) :=
  loopGo_at _ _ _ rows i r hi hg

/-! ### time-weighted variant: weights `decay (t_i − t_j)` for any multiplicative decay -/

/-- weighted sums relative to a reference time `T` -/
def sAt (decay : Int → Rat) (T : Int) : List (Int × Option Rat) → Rat
  | [] => 0
  | tx :: rest => (match tx.2 with | none => 0 | some v => v * decay (T - tx.1)) + sAt decay T rest

def wAt (decay : Int → Rat) (T : Int) : List (Int × Option Rat) → Rat
  | [] => 0
  | tx :: rest => (match tx.2 with | none => 0 | some _ => decay (T - tx.1)) + wAt decay T rest

/-- the same function as `LoopBridge.runTE` -/
def runT (decay : Int → Rat) (h : List (Int × Option Rat)) : ESt := h.foldl (emaStepTimed decay) eInit

theorem sAt_append (decay : Int → Rat) (T : Int) (a b : List (Int × Option Rat)) :
    sAt decay T (a ++ b) = sAt decay T a + sAt decay T b := by
  induction a with
  | nil => simp [sAt]
  | cons x xs ih => simp only [List.cons_append, sAt, ih, add_assoc]

theorem wAt_eq_sAt (decay : Int → Rat) (T : Int) (h : List (Int × Option Rat)) :
    wAt decay T h = sAt decay T (h.map fun tx => (tx.1, tx.2.map fun _ => 1)) := by
  induction h with
  | nil => rfl
  | cons x xs ih => obtain ⟨t, x⟩ := x; cases x <;> simp [wAt, sAt, ih]

theorem wAt_append (decay : Int → Rat) (T : Int) (a b : List (Int × Option Rat)) :
    wAt decay T (a ++ b) = wAt decay T a + wAt decay T b := by
  simp only [wAt_eq_sAt, List.map_append, sAt_append]

theorem sAt_shift (decay : Int → Rat) (hmul : ∀ a b, decay (a + b) = decay a * decay b) (T T' : Int)
    (h : List (Int × Option Rat)) : sAt decay T' h = decay (T' - T) * sAt decay T h := by
  induction h with
  | nil => simp [sAt]
  | cons x xs ih =>
    simp only [sAt, ih]
    cases x.2 with
    | none => simp
    | some v =>
      have hT : T' - x.1 = (T' - T) + (T - x.1) := (sub_add_sub_cancel T' T x.1).symm
      rw [hT, hmul]
      ring

theorem wAt_shift (decay : Int → Rat) (hmul : ∀ a b, decay (a + b) = decay a * decay b) (T T' : Int)
    (h : List (Int × Option Rat)) : wAt decay T' h = decay (T' - T) * wAt decay T h := by
  simp only [wAt_eq_sAt, sAt_shift decay hmul T T']

theorem runT_state (decay : Int → Rat) (hmul : ∀ a b, decay (a + b) = decay a * decay b)
    (h : List (Int × Option Rat)) (T : Int) :
    (decayed decay (runT decay h) T).r = sAt decay T h ∧ (decayed decay (runT decay h) T).w = wAt decay T h := by
  refine foldl_hist_inv (fun h s => ∀ T, (decayed decay s T).r = sAt decay T h ∧ (decayed decay s T).w = wAt decay T h)
    (emaStepTimed decay) eInit (fun T => by simp [decayed, eInit, sAt, wAt]) (fun xs s x ih T => ?_) h T
  obtain ⟨hr, hw⟩ := ih x.1
  rw [sAt_append, wAt_append, sAt_shift decay hmul x.1 T xs, wAt_shift decay hmul x.1 T xs, ← hr, ← hw]
  -- the step has set `lastT := some x.1`, so decaying to `T` multiplies by `decay (T - x.1)`, valid row or not
  cases hx : x.2
  all_goals
    simp only [decayed, emaStepTimed, hx, sAt, wAt, add_zero]
    constructor <;> ring

/-- **closed form, time-weighted**: at a valid row the output is the weighted mean of the valid
observations of the group so far with weight `decay (elapsed time)` -/
theorem ema_timed_closed_form (decay : Int → Rat) (hmul : ∀ a b, decay (a + b) = decay a * decay b)
    (h0 : decay 0 = 1) (h : List (Int × Option Rat)) (t : Int) (v : Rat) :
    emaOutTimed decay (runT decay h) (t, some v)
      = some (sAt decay t (h ++ [(t, some v)]) / wAt decay t (h ++ [(t, some v)])) := by
  obtain ⟨hr, hw⟩ := runT_state decay hmul h t
  simp only [emaOutTimed, emaOut, hr, hw, sAt_append, wAt_append, sAt, wAt, Int.sub_self, h0]
  congr 1
  ring

/-- source fact: the grouped kernels skip null keys (guard present in the current source) -/
theorem guards_present :
    Generated.Constants.guardEmaGrouped = true ∧ Generated.Constants.guardEmaGroupedTimed = true := by decide

/-- non-vacuity / sanity: α = 1/2, two interleaved groups, an invalid row, a null key -/
example : emaGrouped (1 / 2) [(0, some 1), (1, some 4), (-1, some 9), (0, none), (0, some 3)]
    = [some (some 1), some (some 4), none, some (some 1), some (some (13 / 5))] := by decide +kernel

/-! ### the kernels of the current source, end to end

`Generated.Loops.ema_grouped` / `ema_grouped_timed` / `ema_adjusted` / `ema_time_weighted` are regenerated from
`groupby_lib/emas.py` on every run (exact rational arithmetic, NaN as a separate cell value); `LoopBridge/Ema.lean`
proves them equal to `emaGrouped` / `emaGroupedTimed` and to the single-series runs (`0 ≤ β`, `0 ≤ decay d` keep the
kernels' divisor `1 + weight` away from 0).  `ng` (`ngroups`) and `ml` (the mask's length) only size arrays, which the
translation renders as total functions, so no statement constrains them.  Composed with the results above: -/

/-- **the translated `_ema_grouped` returns the normalised exponentially weighted mean**: at a row with a non-null key
whose value is valid (not NaN, not masked), the cell holds `Σ β^(rows elapsed)·x / Σ β^(rows elapsed)` over the valid
observations of the same group up to that row, with `β = 1 - alpha` and one step per group row -/
theorem source_ema_closed_form (k : Kind) (β : Rat) (hβ : 0 ≤ β) (codes : List Int) (vals : List FVal)
    (msk : List Bool) (masked : Bool) (ng ml : Int) (hlen : codes.length = vals.length)
    (i : Nat) (hi : i < codes.length) (hg : 0 ≤ codes.getD i 0) (v : Rat)
    (hv : LoopBridge.obsOf (vals.getD i .nan) (masked && !(msk.getD i true)) = some v) :
    let rows := LoopBridge.emaRows codes vals masked msk
    let hist := groupVals (rows.take i) (codes.getD i 0)
    (Generated.Loops.ema_grouped k codes.length (arrOf codes 0) vals.length (arrOf vals .nan) (.q (1 - β)) ng masked ml
      (arrOf msk true)).1 (i : Int) = .q (emaS β (hist ++ [some v]) / emaW β (hist ++ [some v])) := by
  intro rows hist
  have hrow : rows[i]? = some (codes.getD i 0, some v) := by
    simp only [rows, LoopBridge.emaRows]
    rw [List.getElem?_map, List.getElem?_range hi, Option.map_some, hv]
  rw [(LoopBridge.ema_grouped_eq k β hβ codes vals msk masked ng ml hlen).2 i hi, LoopBridge.emaCell,
    grouped_eq_single_group β rows i _ hrow hg, ema_closed_form]

/-- invalid rows repeat the group's previous output; null-key rows hold NaN: the cell is the model's output -/
theorem source_ema_eq_model (k : Kind) (β : Rat) (hβ : 0 ≤ β) (codes : List Int) (vals : List FVal)
    (msk : List Bool) (masked : Bool) (ng ml : Int) (hlen : codes.length = vals.length) (i : Nat) (hi : i < codes.length) :
    (Generated.Loops.ema_grouped k codes.length (arrOf codes 0) vals.length (arrOf vals .nan) (.q (1 - β)) ng masked ml
      (arrOf msk true)).1 (i : Int) =
      LoopBridge.emaCell (emaGrouped β (LoopBridge.emaRows codes vals masked msk)) i :=
  (LoopBridge.ema_grouped_eq k β hβ codes vals msk masked ng ml hlen).2 i hi

/-- **the translated `_ema_grouped_timed`**: the cell of every row is the time-weighted model's output, for the decay
`Δt ↦ exp(-ln 2 · Δt / halflife)` computed by the source (uninterpreted `expf`, `ln2`) -/
theorem source_ema_timed_eq_model (k : Kind) (ln2 : FVal) (expf : FVal → FVal) (halflife : Int) (decay : Int → Rat)
    (hdec : ∀ d : Int, expf (FVal.mul (FVal.neg ln2) (FVal.divII d halflife)) = .q (decay d))
    (hdec0 : ∀ d : Int, 0 ≤ decay d)
    (codes : List Int) (vals : List FVal) (times : List Int) (msk : List Bool)
    (masked : Bool) (ng ml : Int) (hlen : codes.length = vals.length) (hlent : codes.length = times.length)
    (htimes : ∀ t ∈ times, t ≠ minInt64) (i : Nat) (hi : i < codes.length) :
    (Generated.Loops.ema_grouped_timed k ln2 expf codes.length (arrOf codes 0) vals.length (arrOf vals .nan) times.length
      (arrOf times 0) halflife ng masked ml (arrOf msk true)).1 (i : Int) =
      LoopBridge.emaCell (emaGroupedTimed decay (LoopBridge.emaTRows codes vals times masked msk)) i :=
  (LoopBridge.ema_grouped_timed_eq k ln2 expf halflife decay hdec hdec0 codes vals times msk masked ng ml hlen hlent
    htimes).2 i hi

/-- **from the first valid observation on, the translated grouped kernel on a single group and the translated ungrouped
kernel `_ema_adjusted` produce the same cell** - a statement about two functions of the current source -/
theorem source_single_group_eq_ungrouped (k : Kind) (β : Rat) (hβ : 0 ≤ β) (vals : List FVal) (ng ml : Int)
    (i : Nat) (hi : i < vals.length)
    (hvalid : ∃ j, j < i + 1 ∧ ∃ v, (vals.map (fun v => LoopBridge.obsOf v false))[j]? = some (some v)) :
    (Generated.Loops.ema_grouped k (List.replicate vals.length (0 : Int)).length (arrOf (List.replicate vals.length 0) 0)
        vals.length (arrOf vals .nan) (.q (1 - β)) ng false ml (arrOf [] true)).1 (i : Int) =
      (Generated.Loops.ema_adjusted k vals.length (arrOf vals .nan) (.q (1 - β))).1 (i : Int) := by
  have hrep : (List.replicate vals.length (0 : Int)).length = vals.length := List.length_replicate
  have hir : i < (List.replicate vals.length (0 : Int)).length := Nat.lt_of_lt_of_eq hi hrep.symm
  have hil : i < (vals.map (LoopBridge.obsOf · false)).length := Nat.lt_of_lt_of_eq hi (List.length_map _).symm
  rw [(LoopBridge.ema_adjusted_eq k β hβ vals i hi hvalid).2,
    (LoopBridge.ema_grouped_eq k β hβ (List.replicate vals.length 0) vals [] false ng ml hrep).2 i hir,
    LoopBridge.emaRows_single, emaGrouped, LoopBridge.emaCell_single _ _ _ _ _ hil, getD_eq_getElem _ _ hil]
  rfl

/-- **the translated ungrouped `_ema_time_weighted`** holds, at every row, the single-series time-weighted model's output
(decay `exp(-ln 2 · Δt / halflife)` between consecutive rows, a leading NaN gives NaN) -/
theorem source_ema_time_weighted_eq_model (k : Kind) (ln2 : FVal) (expf : FVal → FVal) (halflife : Int) (decay : Int → Rat)
    (hdec : ∀ d : Int, expf (FVal.mul (FVal.neg ln2) (FVal.divII d halflife)) = .q (decay d))
    (hdec0 : ∀ d : Int, 0 ≤ decay d)
    (vals : List FVal) (times : List Int) (hlen : vals.length = times.length) (hne : 0 < vals.length)
    (i : Nat) (hi : i < vals.length) :
    (Generated.Loops.ema_time_weighted k ln2 expf vals.length (arrOf vals .nan) times.length (arrOf times 0) halflife).1 (i : Int)
      = LoopBridge.optF (emaOutTimed decay
          (LoopBridge.runTE decay (((List.range vals.length).map fun i =>
            (times.getD i 0, LoopBridge.obsOf (vals.getD i .nan) false)).take i))
          (((List.range vals.length).map fun i => (times.getD i 0, LoopBridge.obsOf (vals.getD i .nan) false)).getD i (0, none))) :=
  (LoopBridge.ema_time_weighted_eq k ln2 expf halflife decay hdec hdec0 vals times hlen hne i hi).2

/-- **time-weighted: the translated grouped kernel on a single group and the translated ungrouped kernel agree at every
row** (both hold the single-series model's output; timestamps different from the int64 minimum) -/
theorem source_single_group_eq_ungrouped_timed (k : Kind) (ln2 : FVal) (expf : FVal → FVal) (halflife : Int)
    (decay : Int → Rat) (hdec : ∀ d : Int, expf (FVal.mul (FVal.neg ln2) (FVal.divII d halflife)) = .q (decay d))
    (hdec0 : ∀ d : Int, 0 ≤ decay d) (vals : List FVal) (times : List Int) (hlen : vals.length = times.length)
    (htimes : ∀ t ∈ times, t ≠ minInt64) (ng ml : Int) (i : Nat) (hi : i < vals.length) :
    (Generated.Loops.ema_grouped_timed k ln2 expf (List.replicate vals.length (0 : Int)).length
        (arrOf (List.replicate vals.length 0) 0) vals.length (arrOf vals .nan) times.length (arrOf times 0) halflife ng false ml
        (arrOf [] true)).1 (i : Int) =
      (Generated.Loops.ema_time_weighted k ln2 expf vals.length (arrOf vals .nan) times.length (arrOf times 0) halflife).1 (i : Int) := by
  have hrep : (List.replicate vals.length (0 : Int)).length = vals.length := List.length_replicate
  have hir : i < (List.replicate vals.length (0 : Int)).length := Nat.lt_of_lt_of_eq hi hrep.symm
  have hil : i < ((List.range vals.length).map fun i =>
      (times.getD i 0, LoopBridge.obsOf (vals.getD i .nan) false)).length := by
    rw [List.length_map, List.length_range]; exact hi
  rw [(LoopBridge.ema_time_weighted_eq k ln2 expf halflife decay hdec hdec0 vals times hlen (Nat.zero_lt_of_lt hi) i hi).2,
    (LoopBridge.ema_grouped_timed_eq k ln2 expf halflife decay hdec hdec0 (List.replicate vals.length 0) vals times []
      false ng ml hrep (hrep.trans hlen) htimes).2 i hir,
    LoopBridge.emaTRows_single, emaGroupedTimed, LoopBridge.emaCell_single _ _ _ _ _ hil, getD_eq_getElem _ _ hil]
  rfl

/-- non-vacuity: alpha = 1/2, two interleaved groups, a NaN, a null key, a masked row -/
example :
    let r := Generated.Loops.ema_grouped .f 6 (arrOf [0, 1, -1, 0, 0, 1] 0) 6
      (arrOf [.q 1, .q 4, .q 9, .nan, .q 3, .q 8] .nan) (.q (1 / 2)) 2 true 6
      (arrOf [true, true, true, true, true, false] true)
    ((List.range 6).map fun (j : Nat) => r.1 (j : Int)) = [.q 1, .q 4, .nan, .q 1, .q (13 / 5), .q 4] := by decide +kernel

end GV.C10
