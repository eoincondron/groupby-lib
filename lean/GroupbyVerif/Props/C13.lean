import GroupbyVerif.Generated.Constants
import GroupbyVerif.Props.C04
import GroupbyVerif.Props.C07

/-!
# C13 — A GroupBy object can be reused: results are history-independent

The object's key representation is a list of code chunks, optionally with per-chunk pointer
tables from chunk-local to global codes; `_unify_group_key_chunks` rewrites it in place.
The abstraction `globalCodes` (what the codes *mean*) is invariant under every rewrite, so
an operation whose output is a function of the abstraction depends on no earlier call.
-/

namespace GV.C13
open GV

structure KeyRepr where
  chunks : List (List Int)                 -- code chunks (chunk-local codes when `pointers` is present)
  pointers : Option (List (List Nat))      -- per-chunk tables local code -> global code
  flat : Bool                              -- stored as one contiguous array
deriving Repr, Inhabited

/-- map one chunk through its pointer table, keeping the null code -/
def mapChunk (p : List Nat) (c : List Int) : List Int :=
  c.map fun k => if k < 0 then -1 else ((p.getD k.toNat 0 : Nat) : Int)

/-- the abstraction: the global code of every row, in row order -/
def globalCodes (s : KeyRepr) : List Int :=
  match s.pointers with
  | some ps => ((ps.zip s.chunks).map fun pc => mapChunk pc.1 pc.2).flatten
  | none => s.chunks.flatten

/-- well-formedness: one pointer table per chunk -/
def Inv (s : KeyRepr) : Prop :=
  match s.pointers with
  | some ps => ps.length = s.chunks.length
  | none => True

/-- `_unify_group_key_chunks(keep_chunked)` -/
def unify (keepChunked : Bool) (s : KeyRepr) : KeyRepr :=
  match s.pointers with
  | some ps =>
    let mapped := (ps.zip s.chunks).map fun pc => mapChunk pc.1 pc.2
    if keepChunked then { chunks := mapped, pointers := none, flat := false }
    else { chunks := [mapped.flatten], pointers := none, flat := true }
  | none =>
    if keepChunked || s.flat then s
    else { chunks := [s.chunks.flatten], pointers := none, flat := true }

/-- the operations of the public API, by their effect on the key representation (read off `core.py`) -/
inductive Op where
  | reduce            -- reductions with transform=False: no rewrite
  | reduceTransform   -- unify(keep_chunked=False)
  | groupsLike        -- groups / apply / median / quantile / group-sorted layouts: unify(keep_chunked=True)
  | applyTransform    -- unify(True) then unify(False)
  | rowAligned        -- head/tail/nth, cumulative, rolling, shift, diff, ema, cumcount: unify(False)
  | reducePositional  -- reduction with an integer-position mask: unify(False) first
deriving DecidableEq, Repr

def step (s : KeyRepr) : Op → KeyRepr
  | .reduce => s
  | .reduceTransform => unify false s
  | .groupsLike => unify true s
  | .applyTransform => unify false (unify true s)
  | .rowAligned => unify false s
  | .reducePositional => unify false s

/-- **unification never changes what the codes mean** -/
theorem unify_preserves_abs (b : Bool) (s : KeyRepr) : globalCodes (unify b s) = globalCodes s := by
  cases hp : s.pointers with
  | some ps =>
    cases b <;> simp [unify, globalCodes, hp]
  | none =>
    by_cases hc : (b || s.flat) = true
    · simp [unify, hp, hc]
    · simp [unify, globalCodes, hp, hc]

theorem unify_preserves_inv (b : Bool) (s : KeyRepr) (_h : Inv s) : Inv (unify b s) := by
  cases hp : s.pointers with
  | some ps => cases b <;> simp [unify, Inv, hp]
  | none =>
    by_cases hc : (b || s.flat) = true
    · simp [unify, Inv, hp, hc]
    · simp [unify, Inv, hp, hc]

theorem step_preserves_abs (s : KeyRepr) (op : Op) : globalCodes (step s op) = globalCodes s := by
  cases op <;> simp [step, unify_preserves_abs]

/-- any history of operations leaves the abstraction untouched -/
theorem history_preserves_abs (s : KeyRepr) (ops : List Op) : globalCodes (ops.foldl step s) = globalCodes s := by
  induction ops generalizing s with
  | nil => rfl
  | cons op ops ih => simp only [List.foldl_cons]; rw [ih, step_preserves_abs]

/-- **history independence**: if an operation's result is a function of the global codes (and of its
own arguments), then after ANY history it returns what it returns on the fresh object -/
theorem history_independent {ρ : Type} (result : List Int → ρ) (s : KeyRepr) (ops : List Op) :
    result (globalCodes (ops.foldl step s)) = result (globalCodes s) := by
  rw [history_preserves_abs]

/-- after any operation that needs contiguous codes the representation IS contiguous (no later
operation can find a half-unified object) -/
theorem unify_false_flat (s : KeyRepr) : (unify false s).flat = true ∧ (unify false s).pointers = none := by
  unfold unify
  cases hp : s.pointers with
  | some ps => simp
  | none =>
    simp only [Bool.false_or]
    by_cases hf : s.flat = true
    · simp [hf, hp]
    · simp [hf]

/-! ### reductions chunk by chunk

`chunked_reduce_eq_flat` takes the chunks already in global codes; what the pointer tables do to one chunk is stated on
its own (`valsOf_relabel`, `absent_code_empty`), and nothing composes the two with `mapChunk`. -/

/-- relabelling the codes of a block by a map that is injective on the block's non-negative codes
and keeps negatives negative does not change any group's values -/
theorem valsOf_relabel (rows : List Row) (f : Int → Int) (l : Int) (hl : 0 ≤ l)
    (hinj : ∀ r ∈ rows, 0 ≤ r.1 → (f r.1 = f l ↔ r.1 = l))
    (hneg : ∀ r ∈ rows, r.1 < 0 → f r.1 < 0) (hfl : 0 ≤ f l) :
    valsOf (rows.map fun r => (f r.1, r.2)) (f l) = valsOf rows l := by
  rw [valsOf, List.filter_map, List.map_map]
  refine congrArg _ (List.filter_congr fun r hr => ?_)
  show decide (f r.1 = f l) = decide (r.1 = l)
  by_cases h0 : 0 ≤ r.1
  · exact decide_eq_decide.mpr (hinj r hr h0)
  · have hr0 : r.1 < 0 := Int.not_le.mp h0
    have hfne : f r.1 ≠ f l := Int.ne_of_lt (Int.lt_of_lt_of_le (hneg r hr hr0) hfl)
    have hne : r.1 ≠ l := Int.ne_of_lt (Int.lt_of_lt_of_le hr0 hl)
    exact decide_eq_decide.mpr (iff_of_false hfne hne)

/-- a global code that no row of the chunk maps to is an untouched slot of the chunk's scattered partial -/
theorem absent_code_empty (red : Red) (init : Val) (rows : List Row) (g : Int) (hg : 0 ≤ g)
    (h : ∀ r ∈ rows, r.1 ≠ g) : groupByReduce red init rows g = (init, 0) :=
  C07.untouched_slot_neutral red init rows g hg h

/-- **chunked keys = contiguous keys for reductions**: merging, from the empty partial, the per-chunk
partial results (already expressed in global codes) gives the single-pass result over all rows -/
theorem chunked_reduce_eq_flat (kn : Kernel) (k : Kind) (hk : k.Supported) (chunksGlobal : List (List Row))
    (hwf : C04.BlocksWF k chunksGlobal) (g : Int) (hg : 0 ≤ g) :
    (chunksGlobal.map fun c => groupByReduce (kn.red modelReducers k) (kn.init k) c g).foldl
        (mergePair (kn.mergeRed modelReducers k)) (kn.init k, 0)
      = groupByReduce (kn.red modelReducers k) (kn.init k) chunksGlobal.flatten g :=
  groupByReduce_blocks kn k hk g hg [] chunksGlobal nofun hwf

/-- non-vacuity: a history through all three representations -/
example :
    let s : KeyRepr := { chunks := [[0, 1, -1], [1, 0]], pointers := some [[2, 0], [0, 1]], flat := false }
    globalCodes s = [2, 0, -1, 1, 0] ∧
    globalCodes ([Op.reduce, .groupsLike, .rowAligned, .reduce].foldl step s) = [2, 0, -1, 1, 0] ∧
    ([Op.groupsLike].foldl step s).pointers = none ∧ ([Op.groupsLike, .rowAligned].foldl step s).flat = true := by decide

/-- the unification loop of `GroupBy._unify_group_key_chunks` has the shape the model `unify` / `globalCodes` stands for
(re-extracted from the AST of `core.py` on every run): every chunk is mapped through its pointer table at the non-null
positions only and keeps `-1` elsewhere, with no fast path around it -/
theorem source_unify_keeps_null_code : Generated.Constants.unifyKeepsNullCode = true := by decide

end GV.C13
