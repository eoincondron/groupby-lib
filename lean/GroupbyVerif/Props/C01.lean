import GroupbyVerif.Props.C04
import GroupbyVerif.Model.GroupBy
import GroupbyVerif.Lemmas.Pipeline

/-!
# C01 — Group reductions equal the per-group definition (public API)

The kernel-level statement (single pass / block-wise = per-group definition, for every
interleaving, null placement, kernel and dtype class) is C04.  This file adds what the public
pipeline needs on top: the neutral result of an all-null group, the label set, and
`modelReduce_eq_specReduce`: the whole pipeline (factorization, kernel under any mask / thread count,
observed-label filter, label ordering) returns exactly the specification `specReduce`.
-/

namespace GV.C01
open GV GV.C04 GV.Pipe

/-- a group whose values are all null reports the neutral result: 0 for sum / count /
sum of squares, the kind's null otherwise — and its row count is still reported by `size`/`last` -/
theorem all_null_group_neutral (kn : Kernel) (k : Kind) (vs : List Val) (h : ∀ v ∈ vs, isNull k v = true) :
    (specKernel kn k vs).1 =
      match kn with
      | .size => .num vs.length
      | .count | .sum | .sumSquares => .num 0
      | .sumNoSkip => sumVals vs
      | .min | .max | .first | .last => nullValue k := by
  have hnn : nonNull k vs = [] := by
    simp only [nonNull, List.filter_eq_nil_iff]
    intro v hv; simp [h v hv]
  cases kn <;> simp [specKernel, hnn, sumVals, sumSqVals, accOf]

/-- the count component of `count` is the number of non-null values; of `size` the number of rows -/
theorem count_counts_nonnull (k : Kind) (vs : List Val) :
    (specKernel .count k vs).2 = (nonNull k vs).length ∧ (specKernel .size k vs).2 = vs.length := by
  simp [specKernel]

/-- `first`/`last` follow row order: the first / last non-null value of the group -/
theorem first_last_row_order (k : Kind) (vs : List Val) :
    (specKernel .first k vs).1 = (nonNull k vs).head?.getD (nullValue k) ∧
    (specKernel .last k vs).1 = (nonNull k vs).getLast?.getD (nullValue k) := by
  simp [specKernel]

/-- the labels of the specification are exactly the keys that have at least one selected row -/
theorem spec_labels_exactly_selected (kn : Kernel) (k : Kind) (keys : List (Option Key)) (vals : List Val)
    (mask : Mask) (sort : Bool) (sel : List (Option Key × Val)) (r : List (Key × Partial))
    (hsel : selectGen (keys.zip vals) mask = some sel)
    (hr : specReduce kn k keys vals mask sort = some r) (l : Key)
    (hsub : ∀ x ∈ sel, x ∈ keys.zip vals) :
    l ∈ r.map (·.1) ↔ ∃ v, (some l, v) ∈ sel := by
  simp only [specReduce, hsel, Option.some.injEq] at hr
  subst hr
  simp only [List.map_map, List.mem_map, Function.comp]
  have hperm : ∀ ls : List Key, l ∈ (if sort then sortLabels ls else ls) ↔ l ∈ ls := by
    intro ls
    split
    · exact (List.mergeSort_perm ls keyLe).mem_iff
    · exact Iff.rfl
  constructor
  · rintro ⟨a, ha, rfl⟩
    rw [hperm] at ha
    simp only [List.mem_filter, List.mem_filterMap, decide_eq_true_eq] at ha
    obtain ⟨_, ⟨x, hx, hxl⟩⟩ := ha
    exact ⟨x.2, by rw [← hxl]; exact hx⟩
  · rintro ⟨v, hv⟩
    refine ⟨l, ?_, rfl⟩
    rw [hperm]
    simp only [List.mem_filter, List.mem_filterMap, decide_eq_true_eq, mem_dedup, id]
    refine ⟨⟨some l, ?_, rfl⟩, ⟨(some l, v), hv, rfl⟩⟩
    have := hsub _ hv
    exact (List.of_mem_zip this).1

/-- **the public reduction pipeline returns the specification**: factorization, the kernel under any mask /
thread count, the observed-label filter and the label ordering together give exactly the labels that have a
selected row (ascending or in first-appearance order), each with the per-group definition over its selected rows -/
theorem modelReduce_eq_specReduce (kn : Kernel) (k : Kind) (hk : k.Supported) (keys : List (Option Key)) (vals : List Val)
    (mask : Mask) (sort : Bool) (threads : Nat) (hlen : keys.length = vals.length) (hwf : ∀ v ∈ vals, WF k v)
    (hm : ∀ m, mask = .bool m → m.length = keys.length) (res : List (Key × Partial))
    (h : modelReduce modelReducers kn k keys vals mask sort threads = some res) :
    specReduce kn k keys vals mask sort = some res := by
  unfold modelReduce at h
  simp only [factorizeFirst] at h
  generalize hlab : dedup (keys.filterMap id) = labels at h
  have hnd : labels.Nodup := hlab ▸ nodup_dedup _
  rw [List.zip_map_left, zip_codes_codes labels keys vals hlen] at h
  have hmlen : ∀ (c : Option Key × Val → Row) m, mask = .bool m → m.length = ((keys.zip vals).map c).length :=
    fun c m hmm => by rw [List.length_map, List.length_zip, ← hlen, Nat.min_self]; exact hm m hmm
  split at h
  · rename_i p cnt hp hcnt
    simp only [Option.some.injEq] at h
    obtain ⟨sel2, hsel2, hcnt2⟩ := size_kernel_count _ mask cnt (hmlen _) hcnt
    -- the selection on the original rows; the kernels see it coded
    cases hsel : selectGen (keys.zip vals) mask with
    | none =>
      rw [selectRows, selectGen_map, hsel] at hsel2
      cases hsel2
    | some sel =>
      rw [selectRows_map _ _ _ _ hsel] at hsel2
      cases hsel2
      have F1 : ∀ (g : Nat) (hg : g < labels.length),
          (cnt (Int.ofNat g)).2 = ((sel.filter (fun r => decide (r.1 = some (labels.getD g [])))).length : Int) := fun g hg => by
        rw [hcnt2 (Int.ofNat g) (Int.natCast_nonneg g), valsOf_coded labels hnd sel _ g hg, List.length_map]
      have F2 : ∀ (g : Nat) (hg : g < labels.length),
          p (Int.ofNat g)
            = specKernel kn k ((sel.filter (fun r => decide (r.1 = some (labels.getD g [])))).map (·.2)) := by
        intro g hg
        obtain ⟨sel1, hsel1, hp1⟩ := groupKernel_eq_def kn k hk _ mask threads none p
          (fun r hr => by obtain ⟨r0, hr0, rfl⟩ := List.mem_map.mp hr; exact hwf _ (List.of_mem_zip hr0).2)
          (hmlen _) hp (Int.ofNat g) (Int.natCast_nonneg g)
        rw [selectRows_map _ _ _ _ hsel] at hsel1
        cases hsel1
        exact hp1.trans (congrArg _ (valsOf_coded labels hnd sel (·.2) g hg))
      -- a label is observed iff it has a selected row
      have F3 : ∀ (g : Nat) (hg : g < labels.length),
          (decide ((p (Int.ofNat g)).2 > 0) || decide ((cnt (Int.ofNat g)).2 > 0))
            = decide (labels.getD g [] ∈ sel.filterMap (·.1)) := by
        intro g hg
        have hiff := filter_ne_nil_iff_mem_filterMap sel (·.1) (labels.getD g [])
        rw [← Bool.decide_or]
        refine decide_eq_decide.mpr ⟨fun hor => hiff.mp fun hnil => ?_, fun hc => Or.inr ?_⟩
        · rcases hor with h1 | h2
          · rw [F2 g hg, hnil] at h1
            exact specKernel_count_pos kn k _ h1 rfl
          · rw [F1 g hg, hnil] at h2
            exact absurd h2 (by decide)
        · rw [F1 g hg]
          have := List.length_pos_iff.mpr (hiff.mpr hc)
          omega
      -- assemble: the labels with a selected row are the observed indices, mapped to their labels
      have hL : labels.filter (fun l => decide (l ∈ sel.filterMap (·.1)))
          = ((List.range labels.length).filter fun g =>
              decide ((p (Int.ofNat g)).2 > 0) || decide ((cnt (Int.ofNat g)).2 > 0)).map fun g => labels.getD g [] := by
        conv => lhs; rw [list_eq_map_range labels []]
        rw [List.filter_map]
        exact congrArg _ (List.filter_congr fun g hg => (F3 g (List.mem_range.mp hg)).symm)
      have hG : ∀ g < labels.length, (labels.getD g [], p (Int.ofNat g)) =
          (labels.getD g [], specKernel kn k ((sel.filter (fun r => r.1 = some (labels.getD g []))).map (·.2))) :=
        fun g hg => congrArg (Prod.mk _) (F2 g hg)
      unfold specReduce
      simp only [hsel, hlab]
      rw [← h, hL]
      refine congrArg some ?_
      cases sort
      · exact List.map_map.trans
          (List.map_congr_left fun g hg => (hG g (List.mem_range.mp (List.mem_filter.mp hg).1)).symm)
      · rw [if_pos rfl, if_pos rfl, sortLabels,
          ← List.map_mergeSort (f := fun g => labels.getD g []) (by intro a _ b _; rfl), List.map_map]
        exact List.map_congr_left fun g hg =>
          (hG g (List.mem_range.mp (List.mem_filter.mp ((List.mergeSort_perm _ _).mem_iff.mp hg)).1)).symm
  · cases h

end GV.C01
