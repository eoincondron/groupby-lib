import GroupbyVerif.Model.Nanops
import GroupbyVerif.Lemmas.Reducers
import GroupbyVerif.Bridge
import GroupbyVerif.Lemmas.Fold
import GroupbyVerif.Props.C04
import GroupbyVerif.LoopBridge.NbReduce
import GroupbyVerif.LoopBridge.Dot

/-!
# C20 — Stand-alone array helpers agree with their NumPy definitions

`_nb_reduce` with null skipping is the fold over the non-null cells, seeded by the first of them.
The multi-threaded `reduce_1d` reduces `array_split` chunks separately and then the chunk results.  That is one pass:
sums and counts are additive over concatenation; for max / min the combiner is associative and an all-null chunk's
result is skipped.
`bools_to_categorical` and `pretty_cut` are one fact each: the bits of the row mask, and `searchsorted` on sorted edges.
The last two sections carry `_nb_reduce` and `_nb_dot` over to the translated loops.
-/

namespace GV.C20
open GV GV.C04

/-- the two-argument reducers the driver executes (regenerated from the source) are the modelled ones -/
theorem generated_rops_eq_model :
    Generated.ReductionOps.sum = ROps.sum ∧ Generated.ReductionOps.min = ROps.min ∧
    Generated.ReductionOps.max = ROps.max ∧ Generated.ReductionOps.count = ROps.count ∧
    Generated.ReductionOps.sum_square = ROps.sum_square :=
  ⟨Bridge.rop_sum, Bridge.rop_min, Bridge.rop_max, Bridge.rop_count, Bridge.rop_sum_square⟩

/-! ### `_nb_reduce` with null skipping = fold over the non-null values -/

/-- `i` is the array position of the head of `vs`: the first non-null cell is at `loc ≥ i`, and what follows it is
`vs` from `loc - i + 1` on -/
theorem firstNonNull_spec (k : Kind) (vs : List Val) (i : Nat) :
    match firstNonNull k vs i with
    | none => nonNull k vs = []
    | some (loc, out) => i ≤ loc ∧ nonNull k vs = out :: nonNull k (vs.drop (loc - i + 1)) := by
  rw [LoopBridge.firstNonNull_eq, ← nonNull_dropWhile, LoopBridge.dropWhile_eq_drop]
  by_cases h : LoopBridge.leadNulls k vs < vs.length
  · rw [dif_pos h]
    refine ⟨Nat.le_add_right _ _, ?_⟩
    rw [Nat.add_sub_cancel_left, List.drop_eq_getElem_cons h, nonNull,
      List.filter_cons_of_pos (by rw [← getD_eq_getElem vs .nan h, LoopBridge.leadNulls_stop k vs h]; rfl)]
    rfl
  · rw [dif_neg h, List.drop_of_length_le (Nat.le_of_not_lt h)]; rfl

/-- null-skipping reduction without initial value: the fold of the non-null values seeded by the
first of them; the first element itself (a null) when every element is null -/
theorem nbReduce_skipna (k : Kind) (f : Val → Val → Val) (a0 : Val) (rest : List Val) :
    nbReduce k f (a0 :: rest) true none = some (accOf f id a0 (nonNull k (a0 :: rest))) := by
  have h := firstNonNull_spec k (a0 :: rest) 0
  simp only [nbReduce]
  cases hf : firstNonNull k (a0 :: rest) 0 with
  | none => simp only [hf] at h; simp [h, accOf]
  | some p =>
    obtain ⟨loc, out⟩ := p
    simp only [hf] at h
    obtain ⟨_, h2⟩ := h
    simp only [Nat.sub_zero] at h2
    simp [h2, accOf]

/-! ### the chunked (multi-threaded) reduction equals the one-pass reduction -/

/-- result of one chunk given as its non-null integers: null marker for an all-null chunk -/
def chunkRes (comb : Val → Val → Val) (nul : Val) : List Int → Val
  | [] => nul
  | x :: xs => (xs.map Val.num).foldl comb (.num x)

/-- **min / max with any number of threads**: reducing the chunk results (skipping the null results of
all-null chunks) gives the reduction of all non-null values — for every split into chunks,
including all-null and single-element chunks.  (`fold_chunk_results` is the same with `chunkRes` values and `nonNull`
doing the skipping.) -/
theorem chunked_extremum_eq_whole (comb : Val → Val → Val) (hc : CombOK comb) (x : Int) (chunks : List (List Int)) :
    (chunks.map fun c => c).foldl
        (fun (acc : Val) c => match c with | [] => acc | y :: ys => comb acc ((ys.map Val.num).foldl comb (.num y)))
        (.num x)
      = (chunks.flatten.map Val.num).foldl comb (.num x) := by
  refine foldl_chunks _ (fun c => c) (fun l => (l.map Val.num).foldl comb (.num x)) (fun _ => True)
    (fun _ _ _ _ => trivial) (fun xs ys _ _ => ?_) [] chunks trivial (fun _ _ => trivial)
  cases ys with
  | nil => simp
  | cons y ys => exact hc.foldl_append_chunk x xs y ys

theorem rops_max_num (k : Kind) (a b : Int) : ROps.max k (.num a) (.num b) = .num (max a b) := by
  by_cases h : a ≥ b
  · simp only [ROps.max, Val.ge, h, decide_true, if_true, Int.max_eq_left h]
  · simp only [ROps.max, Val.ge, h, decide_false, Bool.false_eq_true, if_false,
      Int.max_eq_right (Int.le_of_lt (Int.not_le.mp h))]

theorem rops_min_num (k : Kind) (a b : Int) : ROps.min k (.num a) (.num b) = .num (min a b) := by
  by_cases h : a ≤ b
  · simp only [ROps.min, Val.le, h, decide_true, if_true, Int.min_eq_left h]
  · simp only [ROps.min, Val.le, h, decide_false, Bool.false_eq_true, if_false,
      Int.min_eq_right (Int.le_of_lt (Int.not_le.mp h))]

theorem rops_max_ok (k : Kind) : CombOK (ROps.max k) :=
  combOK_of_num _ max (rops_max_num k) (fun _ _ => Std.max_eq_or) Int.max_assoc

theorem rops_min_ok (k : Kind) : CombOK (ROps.min k) :=
  combOK_of_num _ min (rops_min_num k) (fun _ _ => Std.min_eq_or) Int.min_assoc

/-- **sum / count with any number of threads** (exact arithmetic): the sum of the chunk sums is the sum -/
theorem chunked_sum_eq_whole (chunks : List (List Int)) :
    (chunks.map List.sum).sum = chunks.flatten.sum := by
  induction chunks with
  | nil => rfl
  | cons c cs ih =>
    simp only [List.map_cons, List.sum_cons, List.flatten_cons, List.sum_append, ih]

theorem chunked_count_eq_whole {α : Type} (chunks : List (List α)) :
    (chunks.map List.length).sum = chunks.flatten.length :=
  List.length_flatten.symm

/-- the `ROps.max` fold is the maximum: member and upper bound -/
theorem rops_max_char (k : Kind) (xs : List Int) (a : Int) :
    ∃ m, (xs.map Val.num).foldl (ROps.max k) (.num a) = .num m ∧ m ∈ a :: xs ∧ ∀ y ∈ a :: xs, y ≤ m :=
  foldl_ext_char true (ROps.max k) (rops_max_num k) xs a

/-! ### `bools_to_categorical`, `pretty_cut` -/

/-- **bools_to_categorical**: bit `i` of a row's mask is set exactly when column `i` is true, so the label
names exactly the true columns -/
theorem bitMask_testBit (bs : List Bool) (i : Nat) : (bitMask bs).testBit i = bs.getD i false := by
  induction bs generalizing i with
  | nil => simp [bitMask]
  | cons b bs ih =>
    cases i with
    | zero =>
      -- bit 0 of `c + 2 m` is `c`
      rw [bitMask, Nat.testBit_zero, Nat.add_mul_mod_self_left, List.getD_cons_zero]
      cases b <;> rfl
    | succ j =>
      simp only [bitMask, List.getD_cons_succ]
      have hc : (if b = true then 1 else 0) < 2 := by cases b <;> decide
      rw [Nat.testBit_succ, Nat.add_mul_div_left _ _ Nat.two_pos, Nat.div_eq_of_lt hc, Nat.zero_add, ih]

theorem label_names_true_columns (bs : List Bool) (i : Nat) :
    i ∈ labelColumns bs.length (bitMask bs) ↔ bs.getD i false = true ∧ i < bs.length := by
  simp only [labelColumns, List.mem_filter, List.mem_range, bitMask_testBit]
  exact and_comm

/-- **pretty_cut**: with sorted edges, `searchsorted` puts `x` into the bin `(edges[i-1], edges[i]]` -/
theorem searchLeft_bin (bins : List Int) (hs : bins.Pairwise (· ≤ ·)) (x : Int) :
    (∀ j (h : j < bins.length), j < searchLeft bins x → bins[j] < x) ∧
    (∀ j (h : j < bins.length), searchLeft bins x ≤ j → x ≤ bins[j]) := by
  induction bins with
  | nil => exact ⟨fun j h => absurd h (Nat.not_lt_zero j), fun j h => absurd h (Nat.not_lt_zero j)⟩
  | cons b bs ih =>
    obtain ⟨hb, hs'⟩ := List.pairwise_cons.mp hs
    obtain ⟨ih1, ih2⟩ := ih hs'
    by_cases hx : b < x
    · have e : searchLeft (b :: bs) x = searchLeft bs x + 1 := by
        rw [searchLeft, List.filter_cons_of_pos (p := fun b => decide (b < x)) (decide_eq_true hx), List.length_cons]; rfl
      rw [e]
      constructor
      · intro j h hj
        cases j with
        | zero => exact hx
        | succ j' => exact ih1 j' (Nat.lt_of_succ_lt_succ h) (Nat.lt_of_succ_lt_succ hj)
      · intro j h hj
        cases j with
        | zero => exact absurd hj (Nat.not_succ_le_zero _)
        | succ j' => exact ih2 j' (Nat.lt_of_succ_lt_succ h) (Nat.le_of_succ_le_succ hj)
    · -- nothing is below `x`: the edges are sorted and the first is not
      have hbx : x ≤ b := Int.not_lt.mp hx
      have hall : ∀ c ∈ b :: bs, x ≤ c := by
        intro c hc
        rcases List.mem_cons.mp hc with rfl | hc
        · exact hbx
        · exact Int.le_trans hbx (hb c hc)
      have e : searchLeft (b :: bs) x = 0 := by
        rw [searchLeft, List.length_eq_zero_iff, List.filter_eq_nil_iff]
        intro c hc
        rw [decide_eq_true_eq]
        exact Int.not_lt.mpr (hall c hc)
      rw [e]
      exact ⟨fun j h hj => absurd hj (Nat.not_lt_zero j), fun j h _ => hall _ (List.getElem_mem h)⟩

example : bitMask [true, false, true] = 5 ∧ labelColumns 3 5 = [0, 2] ∧ searchLeft [3, 6, 9] 6 = 1 := by decide

/-! ## `reduce_1d` with threads, end to end (float view) -/

/-- the numbers among float-view cells (`GV.numsOf` of `Model/Composite.lean` written out) -/
def numsOf (l : List Val) : List Int := l.filterMap fun v => match v with | .num n => some n | .nan => none

theorem nonNull_f (l : List Val) : nonNull .f l = (numsOf l).map Val.num := by
  induction l with
  | nil => rfl
  | cons v vs ih =>
    cases v with
    | nan => exact ih -- `filter` / `filterMap` drop a NaN head in one step
    | num n => exact congrArg (Val.num n :: ·) ih -- and keep a number

theorem numsOf_flatten (ls : List (List Val)) : numsOf ls.flatten = (ls.map numsOf).flatten := by
  unfold numsOf
  rw [List.filterMap_flatten]

theorem mapM_of_forall {α β : Type} (g : α → Option β) (g' : α → β) (l : List α) (h : ∀ c ∈ l, g c = some (g' c)) :
    l.mapM g = some (l.map g') := by
  induction l with
  | nil => rfl
  | cons x xs ih =>
    rw [List.mapM_cons, h x (List.mem_cons_self ..), ih (fun c hc => h c (List.mem_cons_of_mem _ hc))]
    rfl

theorem fold_sum_nums (xs : List Int) : (xs.map Val.num).foldl (ROps.sum .f) (.num 0) = .num xs.sum := by
  have := specSum_char xs
  have hf : ROps.sum Kind.f = Val.add := by funext a b; rfl
  rw [hf]
  simpa [sumVals] using this

theorem fold_count_nums (xs : List Int) : (xs.map Val.num).foldl (ROps.count .f) (.num 0) = .num xs.length := by
  suffices H : ∀ a : Int, (xs.map Val.num).foldl (ROps.count .f) (.num a) = .num (a + xs.length) by simpa using H 0
  induction xs with
  | nil => intro a; simp
  | cons x xs ih =>
    intro a
    simp only [List.map_cons, List.foldl_cons, ROps.count, Val.add, Val.ofInt, List.length_cons]
    rw [ih, Int.natCast_succ, Int.add_assoc, Int.add_comm 1]

theorem reduce1d_one (R : Kind → String → Val → Val → Val) (op : NanOp) (k : Kind) (arr : List Val) (skipna : Bool) :
    reduce1d R op k arr skipna 1 = nbReduce k (op.fn R k) arr (if op = .count then true else skipna) op.initial := by
  simp only [reduce1d, if_true]

theorem reduce1d_many (R : Kind → String → Val → Val → Val) (op : NanOp) (k : Kind) (arr : List Val) (skipna : Bool)
    (threads : Nat) (h1 : threads ≠ 1) (h0 : threads ≠ 0) (parts : List Val)
    (hp : (arraySplit arr threads).mapM
      (fun c => nbReduce k (op.fn R k) c (if op = .count then true else skipna) op.initial) = some parts) :
    reduce1d R op k arr skipna threads = nbReduce k (op.chunkOp.fn R k) parts skipna op.chunkOp.initial := by
  simp only [reduce1d, h1, h0, if_false, hp]

/-- for *every* split into chunks; every chunk result is a number, so skipping nulls among them changes nothing -/
theorem nbReduce_chunks_additive (f : Val → Val → Val) (φ : List Int → Int)
    (hφ : ∀ xs : List Int, (xs.map Val.num).foldl f (.num 0) = .num (φ xs))
    (happ : ∀ xs ys, φ (xs ++ ys) = φ xs + φ ys)
    (cs : List (List Val)) (skipna : Bool) :
    ∃ parts, cs.mapM (fun c => nbReduce .f f c true (some (.num 0))) = some parts ∧
      nbReduce .f (ROps.sum .f) parts skipna (some (.num 0)) = some (.num (φ (numsOf cs.flatten))) := by
  have hparts : cs.map (fun c => (nonNull .f c).foldl f (.num 0)) = (cs.map fun c => φ (numsOf c)).map Val.num := by
    rw [List.map_map]; exact List.map_congr_left fun c _ => by rw [nonNull_f, hφ]; rfl
  have hnn : ∀ xs : List Int, nonNull .f (xs.map Val.num) = xs.map Val.num := fun xs => by
    rw [nonNull_f]; congr 1; simp [numsOf, List.filterMap_map, Function.comp_def]
  have hsum : ((cs.map fun c => φ (numsOf c))).sum = φ (numsOf cs.flatten) := by
    have h0 : φ [] = 0 := by have := hφ []; simpa using this.symm
    clear hparts
    induction cs with
    | nil => exact h0.symm
    | cons c cs ih =>
      rw [List.map_cons, List.sum_cons, ih, List.flatten_cons, ← happ]
      unfold numsOf; rw [List.filterMap_append]
  refine ⟨(cs.map fun c => φ (numsOf c)).map Val.num, ?_, ?_⟩
  · rw [← hparts]; exact mapM_of_forall _ _ _ fun _ _ => rfl
  · simp only [nbReduce, hnn, ite_self, fold_sum_nums, hsum]

-- The reducers that `reduce_1d` looks up by name, through the equations of the two `match`es: by `rfl` the names are
-- compared character by character.
theorem nanOp_fn_sum (k : Kind) : NanOp.sum.fn modelROps k = ROps.sum k := by rw [NanOp.fn, modelROps]

theorem nanOp_fn_count (k : Kind) : NanOp.count.fn modelROps k = ROps.count k := by rw [NanOp.fn, modelROps]

theorem nanOp_fn_max (k : Kind) : NanOp.max.fn modelROps k = ROps.max k := by rw [NanOp.fn, modelROps]

theorem nanOp_fn_min (k : Kind) : NanOp.min.fn modelROps k = ROps.min k := by rw [NanOp.fn, modelROps]

/-- the reducer comes with its lookup equation so that `hφ` is stated about `ROps.sum` / `ROps.count`, not about the
lookup by name -/
theorem reduce1d_additive (op : NanOp) (comb : Val → Val → Val) (hfn : op.fn modelROps .f = comb) (φ : List Int → Int)
    (hinit : op.initial = some (.num 0)) (hchunk : op.chunkOp = .sum)
    (hφ : ∀ xs : List Int, (xs.map Val.num).foldl comb (.num 0) = .num (φ xs))
    (happ : ∀ xs ys, φ (xs ++ ys) = φ xs + φ ys) (arr : List Val) (skipna : Bool)
    (hsk : (if op = .count then true else skipna) = true) (threads : Nat) (ht : 0 < threads) :
    reduce1d modelROps op .f arr skipna threads = some (.num (φ (numsOf arr))) := by
  obtain ⟨parts, hp, h⟩ := nbReduce_chunks_additive comb φ hφ happ (arraySplit arr threads) skipna
  rw [arraySplit_flatten arr threads ht] at h
  by_cases h1 : threads = 1
  · subst h1
    rw [reduce1d_one, hsk, hinit, hfn]
    simp only [nbReduce, if_true, nonNull_f, hφ]
  · rw [reduce1d_many _ _ _ _ _ _ h1 (by omega) parts (by rw [hsk, hinit, hfn]; exact hp), hchunk, nanOp_fn_sum]
    exact h

/-- **`reduce_1d("sum")` with any number of threads** (float view, `skipna=True`): the per-chunk sums of the
`array_split` chunks, added up, are the NumPy `nansum` of the whole array -/
theorem reduce1d_sum_threads (arr : List Val) (threads : Nat) (ht : 0 < threads) :
    reduce1d modelROps .sum .f arr true threads = some (specNan .sum .f arr) := by
  rw [reduce1d_additive .sum _ (nanOp_fn_sum .f) List.sum rfl rfl fold_sum_nums (fun _ _ => List.sum_append) arr true rfl
    threads ht]
  simp only [specNan, nonNull_f, specSum_char]

/-- **`reduce_1d("count")` with any number of threads**: the per-chunk counts of non-null cells add up to the number
of non-null cells, whatever `skipna` says -/
theorem reduce1d_count_threads (arr : List Val) (skipna : Bool) (threads : Nat) (ht : 0 < threads) :
    reduce1d modelROps .count .f arr skipna threads = some (specNan .count .f arr) := by
  rw [reduce1d_additive .count _ (nanOp_fn_count .f) (fun xs => (xs.length : Int)) rfl rfl fold_count_nums
    (fun _ _ => by simp) arr skipna rfl threads ht]
  simp only [specNan, nonNull_f, List.length_map]

/-! ## `reduce_1d("max" / "min")` with threads, end to end (float view) -/

theorem chunkRes_num (comb : Val → Val → Val) (hc : CombOK comb) (y : Int) (ys : List Int) :
    ∃ m, chunkRes comb .nan (y :: ys) = .num m := (hc.foldl_mem y ys).imp fun _ h => h.2

theorem fold_chunk_results (comb : Val → Val → Val) (hc : CombOK comb) (a : Int) (cs : List (List Int)) :
    (nonNull .f (cs.map (chunkRes comb .nan))).foldl comb (.num a) = (cs.flatten.map Val.num).foldl comb (.num a) := by
  rw [← LoopBridge.foldl_skipnull]
  refine foldl_chunks _ (chunkRes comb .nan) (fun l => (l.map Val.num).foldl comb (.num a)) (fun _ => True)
    (fun _ _ _ _ => trivial) (fun xs ys _ _ => ?_) [] cs trivial (fun _ _ => trivial)
  cases ys with
  | nil => simp [chunkRes, isNull]
  | cons y ys =>
    obtain ⟨m, hm⟩ := chunkRes_num comb hc y ys
    have hnn : isNull .f (chunkRes comb .nan (y :: ys)) = false := by rw [hm]; rfl
    rw [hc.foldl_append_chunk, hnn]; rfl

/-- an all-null chunk contributes the null marker, which `numsOf` drops -/
theorem chunkRes_chunks (comb : Val → Val → Val) (hc : CombOK comb) (cs : List (List Int)) :
    chunkRes comb .nan (numsOf (cs.map (chunkRes comb .nan))) = chunkRes comb .nan cs.flatten := by
  induction cs with
  | nil => rfl
  | cons c cs ih =>
    cases c with
    | nil => exact ih
    | cons y ys =>
      obtain ⟨m, hm⟩ := chunkRes_num comb hc y ys
      have h := fold_chunk_results comb hc m cs
      rw [nonNull_f] at h
      rw [List.map_cons, hm]
      show ((numsOf (cs.map _)).map Val.num).foldl comb (.num m) = (((ys ++ cs.flatten).map Val.num).foldl comb (.num y))
      rw [h, List.map_append, List.foldl_append]
      exact congrArg (fun v => (cs.flatten.map Val.num).foldl comb v) hm.symm

/-- without a number among the cells the seed `a0` is itself NaN -/
theorem accOf_nums (comb : Val → Val → Val) (a0 : Val) (rest : List Val) :
    accOf comb id a0 ((numsOf (a0 :: rest)).map Val.num) = chunkRes comb .nan (numsOf (a0 :: rest)) := by
  cases hn : numsOf (a0 :: rest) with
  | cons y ys => rfl
  | nil =>
    cases a0 with
    | nan => rfl
    | num n => simp [numsOf] at hn

theorem nbReduce_chunk (comb : Val → Val → Val) (c : List Val) (hc : c ≠ []) :
    nbReduce .f comb c true none = some (chunkRes comb .nan (numsOf c)) := by
  obtain ⟨a0, rest, rfl⟩ := List.exists_cons_of_ne_nil hc
  rw [nbReduce_skipna, nonNull_f, accOf_nums]

/-- **`reduce_1d("max" / "min")` with any number of threads** (float view, `skipna=True`, no empty chunk): the
null-skipping reduction of the per-chunk results is the extremum of all non-null values - NaN when there is none -/
theorem reduce1d_extremum_threads (op : NanOp) (hop : op = .max ∨ op = .min) (arr : List Val) (threads : Nat) (ht : 0 < threads)
    (harr : arr ≠ []) (hne : ∀ c ∈ arraySplit arr threads, c ≠ []) :
    reduce1d modelROps op .f arr true threads = some (chunkRes (op.fn modelROps .f) .nan (numsOf arr)) := by
  have hok : CombOK (op.fn modelROps .f) := by
    rcases hop with rfl | rfl
    · rw [nanOp_fn_max]; exact rops_max_ok .f
    · rw [nanOp_fn_min]; exact rops_min_ok .f
  have hinit : op.initial = none := by rcases hop with rfl | rfl <;> rfl
  have hchunk : op.chunkOp = op := by rcases hop with rfl | rfl <;> rfl
  by_cases h1 : threads = 1
  · subst h1
    rw [reduce1d_one, ite_self, hinit]
    exact nbReduce_chunk _ arr harr
  · -- every chunk gives its `chunkRes`; the chunk results are reduced by the same call
    have hp := mapM_of_forall _ (chunkRes (op.fn modelROps .f) .nan ∘ numsOf) _
      (fun c hc => nbReduce_chunk (op.fn modelROps .f) c (hne c hc))
    rw [reduce1d_many _ _ _ _ _ _ h1 (by omega) _ (by rw [ite_self, hinit]; exact hp), hchunk, hinit,
      nbReduce_chunk _ _ (fun h => harr (by rw [← arraySplit_flatten arr threads ht, List.map_eq_nil_iff.mp h]; rfl)),
      ← List.map_map, chunkRes_chunks _ hok, ← numsOf_flatten, arraySplit_flatten arr threads ht]

theorem chunkRes_congr (f g : Val → Val → Val) (hf : CombOK f)
    (hfg : ∀ a b : Int, f (.num a) (.num b) = g (.num a) (.num b)) (nul : Val) :
    ∀ xs : List Int, chunkRes f nul xs = chunkRes g nul xs
  | [] => rfl
  | x :: xs => by
    show (xs.map Val.num).foldl f (.num x) = (xs.map Val.num).foldl g (.num x)
    induction xs generalizing x with
    | nil => rfl
    | cons y ys ih =>
      obtain ⟨c, hc, _⟩ := hf.num_closed x y
      rw [List.map_cons, List.foldl_cons, List.foldl_cons, ← hfg, hc, ih c]

theorem chunkRes_eq_specNan (op : NanOp) (hop : op = .max ∨ op = .min) (arr : List Val) (harr : arr ≠ []) :
    chunkRes (op.fn modelROps .f) .nan (numsOf arr) = specNan op .f arr := by
  obtain ⟨a0, rest, rfl⟩ := List.exists_cons_of_ne_nil harr
  rcases hop with rfl | rfl
  · simp only [nanOp_fn_max, specNan, nonNull_f, List.headD_cons, accOf_nums]
    exact chunkRes_congr _ _ (rops_max_ok .f) (fun a b => by rw [rops_max_num, vmaxC_num]) _ _
  · simp only [nanOp_fn_min, specNan, nonNull_f, List.headD_cons, accOf_nums]
    exact chunkRes_congr _ _ (rops_min_ok .f) (fun a b => by rw [rops_min_num, vminC_num]) _ _

/-- `reduce_1d("max" / "min")` = NumPy's `nanmax` / `nanmin`, for any thread count without an empty chunk -/
theorem reduce1d_extremum_eq_numpy (op : NanOp) (hop : op = .max ∨ op = .min) (arr : List Val) (threads : Nat) (ht : 0 < threads)
    (harr : arr ≠ []) (hne : ∀ c ∈ arraySplit arr threads, c ≠ []) :
    reduce1d modelROps op .f arr true threads = some (specNan op .f arr) := by
  rw [reduce1d_extremum_threads op hop arr threads ht harr hne, chunkRes_eq_specNan op hop arr harr]

/-! ### `_nb_reduce` of the current source, end to end

`Generated.Loops.nb_reduce` translates `groupby_lib/nanops.py:_nb_reduce` with `_get_first_non_null` and the dtype
dispatch of its numba overload (`util.py`); `LoopBridge/NbReduce.lean` proves it equal to `nbReduce`. -/

/-- **the translated `_nb_reduce` with null skipping is the fold of the non-null values seeded by the first of them**
(the first cell - a null - when every cell is null), for float and integer arrays -/
theorem source_nb_reduce_skipna (k : Kind) (hk : k ≠ .b) (f : Val → Val → Val) (a0 : Val) (rest : List Val) (d : Val) :
    let r := Generated.Loops.nb_reduce k f (a0 :: rest).length (arrOf (a0 :: rest) d) true false d
    r.2 = false ∧ r.1 = accOf f id a0 (nonNull k (a0 :: rest)) := by
  intro r
  have h := LoopBridge.nb_reduce_eq k hk f (a0 :: rest) d true none (fun _ => by simp)
  simp only [Option.isSome_none, Option.getD_none] at h
  refine ⟨h.1, ?_⟩
  have h2 := h.2
  rw [nbReduce_skipna] at h2
  exact Option.some.inj h2

/-- with an initial value (sum / count / sum of squares): the fold of the non-null values from the initial value -/
theorem source_nb_reduce_initial (k : Kind) (hk : k ≠ .b) (f : Val → Val → Val) (l : List Val) (d init : Val) :
    let r := Generated.Loops.nb_reduce k f l.length (arrOf l d) true true init
    r.2 = false ∧ r.1 = (nonNull k l).foldl f init := by
  intro r
  have h := LoopBridge.nb_reduce_eq k hk f l d true (some init) (fun h => by cases h)
  simp only [Option.isSome_some, Option.getD_some, nbReduce] at h
  exact ⟨h.1, by simpa using h.2⟩

/-- non-vacuity: nanmax over [NaN, 3, NaN, 7, 5] with the translated reducer -/
example :
    (Generated.Loops.nb_reduce .f (Generated.ReductionOps.max .f) 5 (arrOf [.nan, .num 3, .nan, .num 7, .num 5] .nan)
      true false .nan) = (.num 7, false) := by decide

/-! ### `_nb_dot` (`util.py`) -/

theorem getD_map_num (l : List Int) (i : Nat) (h : i < l.length) : (l.map Val.num).getD i .nan = .num (l.getD i 0) := by
  rw [getD_eq_getElem _ _ (by rwa [List.length_map]), getD_eq_getElem _ _ h, List.getElem_map]

/-- **the matrix-vector helper is the ordinary product**: for a matrix given by its columns (equally long, integer-valued
cells), a vector with one entry per column and a zero-initialised accumulator, the translated `_nb_dot` leaves in every
row `r` the sum over the columns of `a[c][r] * b[c]`; no error is flagged -/
theorem source_nb_dot_eq_product (k : Kind) (cols : List (List Int)) (b : List Int) (nrows : Nat)
    (hcols : ∀ c ∈ cols, c.length = nrows) (hb : b.length = cols.length) (hne : cols ≠ []) :
    let r := Generated.Loops.nb_dot k (cols.map (·.map Val.num)) b.length (arrOf (b.map Val.num) .nan) nrows
      (fun _ => .num 0)
    r.2 = false ∧ ∀ i : Nat, i < nrows →
      r.1 (i : Int) = .num (((List.range cols.length).map fun c => (cols.getD c []).getD i 0 * b.getD c 0).sum) := by
  obtain ⟨c0, cs, rfl⟩ := List.exists_cons_of_ne_nil hne
  have hc0 : (c0.map Val.num).length = nrows := (List.length_map _).trans (hcols c0 List.mem_cons_self)
  obtain ⟨herr, hcell, -⟩ := LoopBridge.nb_dot_eq k ((c0 :: cs).map fun c : List Int => c.map Val.num) (b.map Val.num)
    nrows (fun _ => .num 0) (Nat.le_of_eq hc0)
  rw [List.length_map] at hcell
  refine ⟨herr, fun i hi => ?_⟩
  have hi0 : i < (c0.map Val.num).length := by rw [hc0]; exact hi
  have hbc : ∀ c, c < (c0 :: cs).length → (b.map Val.num).getD c .nan = .num (b.getD c 0) :=
    fun c hc => getD_map_num b c (by rw [hb]; exact hc)
  rw [hcell i hi0, hb, LoopBridge.dotRow_num _ _ i 0 _ (fun c => ((c0 :: cs).getD c []).getD i 0) (fun c => b.getD c 0)
    (fun c hc => ?_) hbc, Int.zero_add]
  have hi' : i < ((c0 :: cs)[c]).length := by rw [hcols _ (List.getElem_mem hc)]; exact hi
  rw [LoopBridge.matAt, getD_eq_getElem _ [] (by rwa [List.length_map]), List.getElem_map,
    getD_map_num _ _ hi', getD_eq_getElem _ [] hc]

/-- non-vacuity: a 3 x 2 matrix (two columns) times a vector -/
example :
    let r := Generated.Loops.nb_dot .f [[.num 1, .num 2, .num 3], [.num 4, .num 5, .num 6]] 2 (arrOf [.num 10, .num 1] .nan) 3
      (fun _ => .num 0)
    ((List.range 3).map fun (i : Nat) => r.1 (i : Int)) = [.num 14, .num 25, .num 36] := by decide

end GV.C20
