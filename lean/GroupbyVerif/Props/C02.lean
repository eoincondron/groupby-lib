import GroupbyVerif.Lemmas.Factorize
import GroupbyVerif.Lemmas.Monotonic
import GroupbyVerif.LoopBridge.CountingSort
import GroupbyVerif.LoopBridge.WeightCode
import GroupbyVerif.LoopBridge.MonoFact
import GroupbyVerif.LoopBridge.CombineFact

/-!
# C02 — Factorization is a faithful partition of the rows

Theorems about the factorization model (`Model/Factorize.lean`).  `factorizeFirst` is the assumed behaviour of
`pd.factorize`; the theorems show that it — and what the repository builds on top of it: the views per group, several
keys through the mixed radix (`factorize_2d`, namespace `F2`), the sorted-prefix route — satisfies the four relations
of the property for every key list.  The last part restates the loop bridges of the region for the translated source
(`source_*`).  The same four relations are evaluated directly on the implementation's output, for every route, by the
correspondence run (they need no model).
-/

namespace GV.C02
open GV

variable {κ : Type} [DecidableEq κ]

theorem codes_length (keys : List (Option κ)) : (factorizeFirst keys).1.length = keys.length := by
  simp [factorizeFirst]

theorem labels_nodup (keys : List (Option κ)) : (factorizeFirst keys).2.Nodup := nodup_dedup _

/-- no label without a row: every label is the key of some row -/
theorem labels_observed (keys : List (Option κ)) (l : κ) (h : l ∈ (factorizeFirst keys).2) : some l ∈ keys :=
  mem_labels.mp h

theorem code_at (keys : List (Option κ)) (i : Nat) (h : i < keys.length) :
    (factorizeFirst keys).1[i]'(by rw [codes_length]; exact h) = codeOf (factorizeFirst keys).2 keys[i] := by
  simp [factorizeFirst]

theorem key_at_mem (keys : List (Option κ)) (i : Nat) (h : i < keys.length) (x : κ) (hk : keys[i] = some x) :
    x ∈ (factorizeFirst keys).2 :=
  mem_labels.mpr (hk ▸ List.getElem_mem h)

/-- a row gets the null code exactly when its key is null -/
theorem null_code_iff_null_key (keys : List (Option κ)) (i : Nat) (h : i < keys.length) :
    (factorizeFirst keys).1[i]'(by rw [codes_length]; exact h) = -1 ↔ keys[i] = none := by
  rw [code_at _ _ h, codeOf_eq_neg_one_iff]

/-- codes are `-1` or valid label positions -/
theorem code_range (keys : List (Option κ)) (i : Nat) (h : i < keys.length) :
    -1 ≤ (factorizeFirst keys).1[i]'(by rw [codes_length]; exact h) ∧
    (factorizeFirst keys).1[i]'(by rw [codes_length]; exact h) < (factorizeFirst keys).2.length := by
  rw [code_at _ _ h]
  exact codeOf_range (key_at_mem keys i h)

/-- the label at a row's code equals the row's key -/
theorem label_at_code (keys : List (Option κ)) (i : Nat) (h : i < keys.length) (x : κ) (hk : keys[i] = some x) :
    ∃ c : Nat, (factorizeFirst keys).1[i]'(by rw [codes_length]; exact h) = (c : Int) ∧
      (factorizeFirst keys).2[c]? = some x :=
  ⟨_, by rw [code_at _ _ h, hk]; rfl, (codeOf_some (key_at_mem keys i h x hk)).2.2⟩

/-- two rows share a code exactly when their keys are equal -/
theorem codes_eq_iff_keys_eq (keys : List (Option κ)) (i j : Nat) (hi : i < keys.length) (hj : j < keys.length) :
    (factorizeFirst keys).1[i]'(by rw [codes_length]; exact hi) = (factorizeFirst keys).1[j]'(by rw [codes_length]; exact hj)
      ↔ keys[i] = keys[j] := by
  rw [code_at _ _ hi, code_at _ _ hj]
  exact codeOf_inj _ _ _ (key_at_mem keys i hi) (key_at_mem keys j hj)

/-! ### derived views: positions per group, the group-sorted indexer -/

theorem mem_positionsOf (codes : List Int) (g : Int) (i : Nat) :
    i ∈ positionsOf codes g ↔ codes[i]? = some g :=
  _root_.GV.mem_positionsOf codes g i

/-- positions inside a group are strictly ascending (hence each row is listed once) -/
theorem positionsOf_sorted (codes : List Int) (g : Int) : (positionsOf codes g).Pairwise (· < ·) := by
  have h : (codes.zipIdx.map (·.2)).Pairwise (· < ·) := by
    rw [List.zipIdx_map_snd]; exact List.pairwise_lt_range'
  exact h.sublist (List.filter_sublist.map _)

/-- the group listing covers exactly the rows with a valid non-null code -/
theorem mem_groupSortedIndexer (codes : List Int) (ng : Nat) (i : Nat) :
    i ∈ groupSortedIndexer codes ng ↔ ∃ g : Nat, g < ng ∧ codes[i]? = some (g : Int) := by
  simp only [groupSortedIndexer, List.mem_flatten, List.mem_map, List.mem_range]
  constructor
  · rintro ⟨l, ⟨g, hg, rfl⟩, hi⟩
    exact ⟨g, hg, (mem_positionsOf _ _ _).mp hi⟩
  · rintro ⟨g, hg, hc⟩
    exact ⟨_, ⟨g, hg, rfl⟩, (mem_positionsOf _ _ _).mpr hc⟩

/-- rows with a null (negative) code are never listed in any group -/
theorem null_rows_not_listed (codes : List Int) (ng : Nat) (i : Nat) (c : Int) (hc : codes[i]? = some c) (hneg : c < 0) :
    i ∉ groupSortedIndexer codes ng := by
  rw [mem_groupSortedIndexer]
  rintro ⟨g, _, hg⟩
  obtain rfl : c = (g : Int) := Option.some.inj (hc.symm.trans hg)
  omega

/-! ### several keys: the mixed radix is injective and propagates nulls from *every* position -/

/-- the product as `weightCodeSum` and `weightsOf` spell it -/
def prodList (ss : List Nat) : Nat := ss.foldl (· * ·) 1

theorem foldl_mul (ss : List Nat) (a : Nat) : ss.foldl (· * ·) a = a * prodList ss := by
  unfold prodList
  induction ss generalizing a with
  | nil => simp
  | cons s ss ih => simp only [List.foldl_cons]; rw [ih, ih (1 * s)]; simp [Nat.mul_assoc]

theorem prodList_cons (s : Nat) (ss : List Nat) : prodList (s :: ss) = s * prodList ss := by
  unfold prodList; simp only [List.foldl_cons]; rw [foldl_mul]; simp [prodList]

theorem weightCodeSum_cons_eq_some {c : Int} {cs : List Int} {s : Nat} {ss : List Nat} {v : Nat} :
    weightCodeSum (c :: cs) (s :: ss) = some v ↔
      0 ≤ c ∧ ∃ r, weightCodeSum cs ss = some r ∧ c.toNat * prodList ss + r = v := by
  rw [weightCodeSum]
  split
  · next hneg => exact ⟨nofun, fun h => absurd h.1 (by omega)⟩
  · next hneg =>
    cases weightCodeSum cs ss with
    | none => simp
    | some r =>
      simp only [Option.some.injEq, exists_eq_left', prodList]
      exact ⟨fun h => ⟨by omega, h⟩, fun h => h.2⟩

theorem weightCodeSum_none_iff (cs : List Int) (shape : List Nat) (hl : cs.length = shape.length) :
    weightCodeSum cs shape = none ↔ ∃ c ∈ cs, c < 0 := by
  induction cs generalizing shape with
  | nil => simp [weightCodeSum]
  | cons c cs ih =>
    cases shape with
    | nil => simp at hl
    | cons s ss =>
      rw [Option.eq_none_iff_forall_ne_some]
      simp only [ne_eq, weightCodeSum_cons_eq_some, List.mem_cons, exists_eq_or_imp, ← ih ss (by simpa using hl)]
      cases weightCodeSum cs ss with
      | none => simp
      | some r => simp

/-- digits bounded by the shape -/
def Bounded : List Int → List Nat → Prop
  | [], [] => True
  | c :: cs, s :: ss => c < s ∧ Bounded cs ss
  | _, _ => False

theorem weightCodeSum_lt (cs : List Int) (shape : List Nat) (v : Nat) (hb : Bounded cs shape)
    (h : weightCodeSum cs shape = some v) : v < prodList shape := by
  induction cs generalizing shape v with
  | nil =>
    cases shape with
    | nil => obtain rfl : 0 = v := Option.some.inj h
             exact Nat.one_pos
    | cons s ss => exact hb.elim
  | cons c cs ih =>
    cases shape with
    | nil => exact hb.elim
    | cons s ss =>
      obtain ⟨hc0, r, hr, rfl⟩ := weightCodeSum_cons_eq_some.mp h
      have hlt := ih ss r hb.2 hr
      have hcs : c.toNat < s := (Int.toNat_lt hc0).mpr hb.1
      rw [prodList_cons]
      calc c.toNat * prodList ss + r < c.toNat * prodList ss + prodList ss := Nat.add_lt_add_left hlt _
        _ = (c.toNat + 1) * prodList ss := (Nat.succ_mul _ _).symm
        _ ≤ s * prodList ss := Nat.mul_le_mul_right _ hcs

theorem mul_add_inj {P a a' r r' : Nat} (hr : r < P) (hr' : r' < P) (h : a * P + r = a' * P + r') : a = a' ∧ r = r' := by
  have e : ∀ a r, r < P → (a * P + r) / P = a := fun a r hr => by
    rw [Nat.mul_comm, Nat.mul_add_div (Nat.zero_lt_of_lt hr), Nat.div_eq_of_lt hr, Nat.add_zero]
  have ha : a = a' := by rw [← e a r hr, ← e a' r' hr', h]
  subst ha
  exact ⟨rfl, Nat.add_left_cancel h⟩

/-- distinct code rows get distinct combined values (so equal combined codes ⇔ equal key tuples) -/
theorem weightCodeSum_injective (cs cs' : List Int) (shape : List Nat) (v : Nat)
    (hb : Bounded cs shape) (hb' : Bounded cs' shape)
    (h : weightCodeSum cs shape = some v) (h' : weightCodeSum cs' shape = some v) : cs = cs' := by
  induction cs generalizing cs' shape v with
  | nil =>
    cases shape with
    | nil => cases cs' with
      | nil => rfl
      | cons c' cs' => exact hb'.elim
    | cons s ss => exact hb.elim
  | cons c cs ih =>
    cases shape with
    | nil => exact hb.elim
    | cons s ss =>
      cases cs' with
      | nil => exact hb'.elim
      | cons c' cs' =>
        obtain ⟨hc0, r, hr, e⟩ := weightCodeSum_cons_eq_some.mp h
        obtain ⟨hc0', r', hr', e'⟩ := weightCodeSum_cons_eq_some.mp h'
        obtain ⟨hcc, rfl⟩ := mul_add_inj (weightCodeSum_lt cs ss r hb.2 hr) (weightCodeSum_lt cs' ss r' hb'.2 hr')
          (e.trans e'.symm)
        have hc : c = c' := by rw [← Int.toNat_of_nonneg hc0, hcc, Int.toNat_of_nonneg hc0']
        rw [ih cs' ss r hb.2 hb'.2 hr hr', hc]

/-! ### non-vacuity -/

example : factorizeFirst [some 7, none, some 3, some 7] = ([0, -1, 1, 0], [7, 3]) := by decide
example : weightCodeSum [1, 0, 2] [2, 2, 3] = some 8 ∧ Bounded [1, 0, 2] [2, 2, 3] :=
  ⟨by decide, by simp [Bounded]⟩
/-- a null in the LAST key yields the null code (the pinned `_weight_code_sum` returned a valid code here) -/
example : weightCodeSum [1, -1] [2, 3] = none := by decide
example : groupSortedIndexer [1, -1, 0, 1] 2 = [2, 0, 3] := by decide

end GV.C02

/-! ## several keys: `factorize_2d` end to end -/

namespace GV.C02.F2
open GV GV.C02

variable {κ : Type} [DecidableEq κ]

/-- `(factorizeFirst col).2` -/
def labelsOf (col : List (Option κ)) : List κ := dedup (col.filterMap id)

/-- the body of `transposeCols` -/
def rowOf {α : Type} (cols : List (List α)) (i : Nat) : List α := cols.filterMap (·[i]?)

/-- the key of row `i` in one column (null when out of range) -/
def keyAt (col : List (Option κ)) (i : Nat) : Option κ := col[i]?.join

/-- what `factorize2d` feeds the mixed radix for row `i`, in terms of the keys of the row -/
def codeRow (keyCols : List (List (Option κ))) (i : Nat) : List Int :=
  keyCols.map fun col => codeOf (labelsOf col) (keyAt col i)

def shapeOf (keyCols : List (List (Option κ))) : List Nat := keyCols.map fun col => (labelsOf col).length

theorem rowOf_codes (keyCols : List (List (Option κ))) (n i : Nat) (hlen : ∀ c ∈ keyCols, c.length = n) (hi : i < n) :
    rowOf (keyCols.map fun col => (factorizeFirst col).1) i = codeRow keyCols i := by
  induction keyCols with
  | nil => rfl
  | cons col cols ih =>
    have hic : i < col.length := hlen col (List.mem_cons_self ..) ▸ hi
    have h1 : (factorizeFirst col).1[i]? = some (codeOf (labelsOf col) (keyAt col i)) := by
      simp [factorizeFirst, labelsOf, keyAt, hic]
    have ih' := ih fun c hc => hlen c (List.mem_cons_of_mem _ hc)
    unfold rowOf codeRow at ih' ⊢
    rw [List.map_cons, List.filterMap_cons, h1, ih', List.map_cons]

theorem keyAt_mem (col : List (Option κ)) (i : Nat) (x : κ) (h : keyAt col i = some x) : x ∈ labelsOf col :=
  mem_labels.mpr (List.mem_of_getElem? (Option.join_eq_some_iff.mp h))

theorem codeRow_bounded (keyCols : List (List (Option κ))) (i : Nat) : Bounded (codeRow keyCols i) (shapeOf keyCols) := by
  induction keyCols with
  | nil => trivial
  | cons col cols ih => exact ⟨(codeOf_range (keyAt_mem col i)).2, ih⟩

theorem codeRow_none_iff (keyCols : List (List (Option κ))) (i : Nat) :
    weightCodeSum (codeRow keyCols i) (shapeOf keyCols) = none ↔ ∃ col ∈ keyCols, keyAt col i = none := by
  rw [weightCodeSum_none_iff _ _ (by simp [codeRow, shapeOf])]
  simp only [codeRow, List.mem_map]
  constructor
  · rintro ⟨c, ⟨col, hcol, rfl⟩, hneg⟩
    exact ⟨col, hcol, (codeOf_neg_iff _ _).mp hneg⟩
  · rintro ⟨col, hcol, hk⟩
    exact ⟨_, ⟨col, hcol, rfl⟩, (codeOf_neg_iff _ _).mpr hk⟩

theorem codeRow_eq_iff (keyCols : List (List (Option κ))) (i j : Nat) :
    codeRow keyCols i = codeRow keyCols j ↔ ∀ col ∈ keyCols, keyAt col i = keyAt col j := by
  unfold codeRow
  rw [List.map_inj_left]
  constructor
  · intro h col hcol
    exact (codeOf_inj (labelsOf col) _ _ (keyAt_mem col i) (keyAt_mem col j)).mp (h col hcol)
  · intro h col hcol
    rw [h col hcol]

theorem factorize2d_codes (keyCols : List (List (Option κ))) (n : Nat) (hlen : ∀ c ∈ keyCols, c.length = n) :
    (factorize2d keyCols n).1 =
      (factorizeFirst ((List.range n).map fun t => weightCodeSum (codeRow keyCols t) (shapeOf keyCols))).1 := by
  have : (transposeCols ((keyCols.map factorizeFirst).map (·.1)) n).map
      (weightCodeSum · ((keyCols.map factorizeFirst).map (·.2.length))) =
      (List.range n).map fun t => weightCodeSum (codeRow keyCols t) (shapeOf keyCols) := by
    rw [transposeCols, List.map_map]
    refine List.map_congr_left fun t ht => ?_
    rw [← rowOf_codes keyCols n t hlen (List.mem_range.mp ht)]
    simp only [rowOf, shapeOf, List.map_map]
    rfl
  unfold factorize2d
  simp only [this]

end GV.C02.F2

namespace GV.C02
open GV GV.C02.F2

variable {κ : Type} [DecidableEq κ]

/-- **`factorize_2d`, end to end**: two rows get the same combined code exactly when both have a null in some key, or
neither has and they agree in every key column -/
theorem factorize2d_codes_eq_iff (keyCols : List (List (Option κ))) (n : Nat) (hlen : ∀ c ∈ keyCols, c.length = n)
    (i j : Nat) (hi : i < n) (hj : j < n) :
    (factorize2d keyCols n).1[i]? = (factorize2d keyCols n).1[j]? ↔
      ((∃ col ∈ keyCols, keyAt col i = none) ∧ (∃ col ∈ keyCols, keyAt col j = none)) ∨
      ((¬ ∃ col ∈ keyCols, keyAt col i = none) ∧ (¬ ∃ col ∈ keyCols, keyAt col j = none) ∧ ∀ col ∈ keyCols, keyAt col i = keyAt col j) := by
  rw [factorize2d_codes keyCols n hlen]
  generalize hck : (List.range n).map (fun t => weightCodeSum (codeRow keyCols t) (shapeOf keyCols)) = ck
  have hi' : i < ck.length := by simp [← hck, hi]
  have hj' : j < ck.length := by simp [← hck, hj]
  rw [List.getElem?_eq_getElem (by rw [codes_length]; exact hi'), List.getElem?_eq_getElem (by rw [codes_length]; exact hj'),
    Option.some.injEq, codes_eq_iff_keys_eq ck i j hi' hj']
  subst hck
  rw [List.getElem_map, List.getElem_map, List.getElem_range, List.getElem_range]
  rw [← codeRow_none_iff, ← codeRow_none_iff, ← codeRow_eq_iff]
  constructor
  · intro h
    cases hvi : weightCodeSum (codeRow keyCols i) (shapeOf keyCols) with
    | none => exact Or.inl ⟨rfl, h ▸ hvi⟩
    | some vi =>
      refine Or.inr ⟨by simp, by simp [← h, hvi], ?_⟩
      -- the mixed radix is injective on the rows it gives a value
      exact weightCodeSum_injective _ _ _ vi (codeRow_bounded keyCols i) (codeRow_bounded keyCols j) hvi (h ▸ hvi)
  · rintro (⟨hi, hj⟩ | ⟨_, _, h⟩)
    · rw [hi, hj]
    · rw [h]


/-! ## the sorted-prefix route (`_monotonic_factorization`) -/

/-- the run detection on a sorted prefix is a faithful factorization of that prefix, for every input: the prefix
`xs[:cut]` is null-free and non-decreasing and cannot be extended (the next element is a null or smaller), there is one
code per prefix row, the labels are strictly increasing (hence pairwise distinct), and the label at a row's code
has the row's key.  `lt` / `gt` may answer anything when a null is involved. -/
theorem monotonic_factorization_faithful {α : Type} (key : α → Nat) (isNull : α → Bool) (lt gt : α → α → Bool)
    (hord : Mono.OrderOK key isNull lt gt) (xs : List α) :
    Mono.Post key isNull xs (monotonicFactorization lt gt isNull xs) :=
  Mono.monotonic_post key isNull lt gt hord xs

/-- equal codes within the prefix mean equal keys, and vice versa -/
theorem monotonic_codes_eq_iff {α : Type} (key : α → Nat) (isNull : α → Bool) (lt gt : α → α → Bool)
    (hord : Mono.OrderOK key isNull lt gt) (xs : List α) (i j : Nat)
    (hi : i < (monotonicFactorization lt gt isNull xs).1) (hj : j < (monotonicFactorization lt gt isNull xs).1)
    (ci cj : Nat) (xi xj : α)
    (hci : (monotonicFactorization lt gt isNull xs).2.1[i]? = some ci) (hcj : (monotonicFactorization lt gt isNull xs).2.1[j]? = some cj)
    (hxi : xs[i]? = some xi) (hxj : xs[j]? = some xj) :
    ci = cj ↔ key xi = key xj := by
  have post := Mono.monotonic_post key isNull lt gt hord xs
  obtain ⟨c1, l1, x1, a1, a2, a3, a4⟩ := post.faithful i hi
  obtain ⟨c2, l2, x2, b1, b2, b3, b4⟩ := post.faithful j hj
  rw [hci] at a1; rw [hcj] at b1; rw [hxi] at a3; rw [hxj] at b3
  cases a1; cases b1; cases a3; cases b3
  constructor
  · intro h; subst h; rw [a2] at b2; cases b2; rw [← a4, ← b4]
  · intro h
    exact post.label_inj a2 b2 (by rw [a4, b4, h])

/-- a null first key gives the empty prefix (the caller then takes the general route) -/
theorem monotonic_null_first {α : Type} (key : α → Nat) (isNull : α → Bool) (lt gt : α → α → Bool)
    (hord : Mono.OrderOK key isNull lt gt) (x : α) (xs : List α) :
    (monotonicFactorization lt gt isNull (x :: xs)).1 = 0 ↔ isNull x = true :=
  Mono.monotonic_cut_zero key isNull lt gt hord x xs

/-- non-vacuity: float-like keys (`none` = NaN; comparisons with NaN are false) -/
example :
    monotonicFactorization (fun a b => match a, b with | some x, some y => decide (x < y) | _, _ => false)
      (fun a b => match a, b with | some x, some y => decide (x > y) | _, _ => false) (fun a => a.isNone)
      [some 1, some 1, some 4, none, some 5] = (3, [0, 0, 1], [some 1, some 4]) := by decide

/-! ### the counting sort of the current source, end to end -/

/-- **the translated `_build_group_sorted_indexer_numba` lists, per group, exactly the ascending positions of its
rows**: `Generated.Loops.build_group_sorted_indexer` is regenerated from `groupby_lib/groupby/core.py` on every run.
For any chunking of the codes, any mask, codes below `ngroups` and the true group sizes, entry `j` of the segment of
group `g` (which starts at the sum of the sizes of the groups before it) is the `j`-th position of `g` - so the
segments partition the non-null-key rows (`mem_positionsOf`, `positionsOf_sorted`, `null_rows_not_listed`) -/
theorem source_counting_sort (k : Kind) (chunks : List (List Int)) (msk : List Bool) (masked : Bool)
    (cnt : Int → Int) (ng : Nat) (ml kml : Int) (km : Int → Int)
    (hrange : ∀ c ∈ chunks.flatten, c < (ng : Int))
    (hcnt : ∀ g : Nat, g < ng →
      cnt (g : Int) = ((positionsOf (effCodes masked chunks.flatten msk) (g : Int)).length : Int))
    (hc0 : ∀ g : Nat, 0 ≤ cnt (g : Int)) (g : Nat) (hg : g < ng) (j : Nat)
    (hj : j < (positionsOf (effCodes masked chunks.flatten msk) (g : Int)).length) :
    let r := Generated.Loops.build_group_sorted_indexer k chunks ng cnt false kml km masked ml (arrOf msk true)
    r.2 = false ∧
      r.1 (LoopBridge.pre cnt g + (j : Int)) =
        (((positionsOf (effCodes masked chunks.flatten msk) (g : Int))[j] : Nat) : Int) :=
  LoopBridge.build_group_sorted_indexer_eq k chunks msk masked cnt ng ml kml km hrange hcnt hc0 g hg j hj

/-- non-vacuity: two chunks, a null key, sizes 1 and 2: the indexer is [2, 0, 3] -/
example :
    let r := Generated.Loops.build_group_sorted_indexer .f [[1, -1], [0, 1]] 2 (arrOf [1, 2] 0) false 0 (fun _ => 0)
      false 0 (arrOf [] true)
    ((List.range 3).map fun (p : Nat) => r.1 (p : Int)) = [2, 0, 3] := by decide

/-- **the translated `_weight_code_sum` is the mixed-radix combination of the per-key codes, with the null code as soon
as ANY key is null**: `Generated.Loops.weight_code_sum` is regenerated from `factorization.py` on every run; for the
weights `factorize_2d` passes it returns `-1` iff some component code is `-1` (also the *last* one) and otherwise the
injective mixed-radix value (`weightCodeSum_injective`) -/
theorem source_weight_code_sum (k : Kind) (cs : List Int) (shape : List Nat) (hlen : cs.length = shape.length)
    (hm : cs ≠ []) (hge : ∀ c ∈ cs, -1 ≤ c) :
    let r := Generated.Loops.weight_code_sum k cs.length (arrOf cs 0) (LoopBridge.weightsOf shape).length
      (arrOf (LoopBridge.weightsOf shape) 0)
    r.2 = false ∧ r.1 = (match weightCodeSum cs shape with | none => (-1 : Int) | some v => (v : Int)) ∧
      (r.1 = -1 ↔ ∃ c ∈ cs, c = -1) := by
  intro r
  have h := LoopBridge.weight_code_sum_eq k cs shape hlen hm hge
  refine ⟨h.1, h.2, ?_⟩
  have hnone := weightCodeSum_none_iff cs shape hlen
  have hneg : ∀ c ∈ cs, c < 0 ↔ c = -1 := by
    intro c hc
    have := hge c hc
    omega
  rw [h.2]
  cases hv : weightCodeSum cs shape with
  | none =>
    obtain ⟨c, hc, hc0⟩ := hnone.mp hv
    exact ⟨fun _ => ⟨c, hc, (hneg c hc).mp hc0⟩, fun _ => rfl⟩
  | some v =>
    refine ⟨fun hv1 => absurd hv1 (by simp only; omega), fun ⟨c, hc, hc1⟩ => ?_⟩
    rw [hnone.mpr ⟨c, hc, (hneg c hc).mpr hc1⟩] at hv
    cases hv

/-- non-vacuity: codes (2, -1) and (2, 1) under shape (3, 4) -/
example : (Generated.Loops.weight_code_sum .f 2 (arrOf [2, -1] 0) 2 (arrOf [4, 1] 0),
    Generated.Loops.weight_code_sum .f 2 (arrOf [2, 1] 0) 2 (arrOf [4, 1] 0)) = ((-1, false), (9, false)) := by decide

/-- **the translated `_monotonic_factorization` is the run detection `monotonicFactorization` on the concatenated
chunks** (cut-off, codes of the sorted prefix, labels), for any chunking - empty chunks anywhere - below `2^32` rows:
`Generated.Loops.monotonic_factorization` is regenerated from `factorization.py` on every run.  With
`monotonic_factorization_faithful` / `monotonic_codes_eq_iff` / `monotonic_null_first` this makes the sorted-prefix
route a statement about the source: the prefix ends at the first decrease or the first null (`x != x`), labels are
strictly increasing and the label at a row's code is the row's key.  The translation's error flag is raised only for
a one-row input (`return i + 1` reads the variable of a loop that did not run; numba returns the right value) -/
theorem source_monotonic_eq_model (k : Kind) (chunks : List (List Val)) (htot : (chunks.flatten.length : Int) < 2 ^ 32) :
    let r := Generated.Loops.monotonic_factorization k chunks chunks.flatten.length
    LoopBridge.MAgree r.1 (monotonicFactorization Val.lt Val.gt (fun x => Val.neF x x) chunks.flatten) ∧
      (chunks.flatten.length ≠ 1 → r.2 = false) :=
  LoopBridge.monotonic_factorization_eq k chunks htot

/-- non-vacuity: chunks [[], [1, 1], [], [3, NaN, 5]]: prefix of length 3, codes 0 0 1, labels 1 3 -/
example :
    let r := Generated.Loops.monotonic_factorization .f [[], [.num 1, .num 1], [], [.num 3, .nan, .num 5]] 5
    (r.1.1, (List.range 3).map (fun (j : Nat) => r.1.2.1 (j : Int)), (List.range 2).map (fun (j : Nat) => r.1.2.2.1 (j : Int)),
      r.1.2.2.2, r.2) = (3, [0, 0, 1], [.num 1, .num 3], 2, false) := by decide

/-! ### `_combine_factorizations` (array tracker and dict tracker) -/

/-- the code matrix as the array the kernel reads (`rows[i][c]`) -/
def matOf (rows : List (List Int)) : Int → Int → Int := fun i c => (rows.getD i.toNat []).getD c.toNat 0

/-- mixed-radix key of a row of per-key codes, `-1` when some key is null -/
def mixedKey (shape : List Nat) (r : List Int) : Int :=
  match weightCodeSum r shape with | none => -1 | some v => (v : Int)

theorem wcs_row_eq_mixedKey (k : Kind) (rows : List (List Int)) (shape : List Nat) (hs : shape ≠ [])
    (hlen : ∀ r ∈ rows, r.length = shape.length) (hge : ∀ r ∈ rows, ∀ c ∈ r, -1 ≤ c) (i : Nat) (hi : i < rows.length) :
    Generated.Loops.weight_code_sum k shape.length (matOf rows (i : Int)) (LoopBridge.weightsOf shape).length
      (arrOf (LoopBridge.weightsOf shape) 0) = ((rows.map (mixedKey shape)).getD i 0, false) := by
  have hr : rows[i] ∈ rows := List.getElem_mem hi
  have hne : rows[i] ≠ [] := fun h0 => hs (List.length_eq_zero_iff.mp (by rw [← hlen _ hr, h0]; rfl))
  have h := LoopBridge.weight_code_sum_eq k rows[i] shape (hlen _ hr) hne (hge _ hr)
  have hrow : matOf rows (i : Int) = arrOf rows[i] 0 := by funext c; simp [matOf, arrOf, hi]
  have hkey : (rows.map (mixedKey shape)).getD i 0 = mixedKey shape rows[i] := by simp [hi]
  rw [hrow, ← hlen _ hr, hkey]
  exact Prod.ext h.2 h.1

/-- **several keys, the combination step at the source level**: for every matrix of per-key codes (every row as long
as the shape, entries `-1` or below the shape's digit bound), the translated `_combine_factorizations`, run with the
weights `factorize_2d` passes and an array tracker of `prod(shape) > 0` cells initialised to `-1`, numbers the rows'
mixed-radix keys in order of first appearance: the code of a row is `-1` iff some key of the row is null, otherwise the
position of its key among the distinct keys (so two rows get the same code iff their keys are equal), and `uniques[g]`
is the code row where the `g`-th distinct key first appears; no error is flagged.  The aliasing `uniques = codes` of
the source is part of what is proved (rows not yet visited are never overwritten). -/
theorem source_combine_factorizations (k : Kind) (rows : List (List Int)) (shape : List Nat) (hs : shape ≠ [])
    (hp : 0 < prodList shape)
    (hlen : ∀ r ∈ rows, r.length = shape.length) (hge : ∀ r ∈ rows, ∀ c ∈ r, -1 ≤ c)
    (hb : ∀ r ∈ rows, ∀ v, weightCodeSum r shape = some v → v < prodList shape)
    (tracker : Int → Int) (htr : ∀ x : Int, 0 ≤ x → x < (prodList shape : Int) → tracker x = -1) :
    let keys := rows.map (mixedKey shape)
    let L := dedup (keys.filter (fun x => decide (x ≠ -1)))
    let r := Generated.Loops.combine_factorizations_arr k rows.length shape.length (matOf rows)
      (LoopBridge.weightsOf shape).length (arrOf (LoopBridge.weightsOf shape) 0) (prodList shape : Int) tracker
    r.2 = false ∧ r.1.2.2 = (L.length : Int) ∧
      (∀ j : Nat, j < rows.length → r.1.1 (j : Int) = if keys.getD j 0 = -1 then -1 else (L.idxOf (keys.getD j 0) : Int)) ∧
      (∀ g : Nat, g < L.length → ∀ c : Int, r.1.2.1 (g : Int) c = matOf rows ((keys.idxOf (L.getD g 0) : Nat) : Int) c) := by
  have h := LoopBridge.combine_factorizations_arr_keys k rows.length _ (List.length_map _) shape.length (matOf rows) _ _ _
    tracker (Int.ofNat_lt.mpr hp) htr (wcs_row_eq_mixedKey k rows shape hs hlen hge) fun x hx => by
      obtain ⟨r, hr, rfl⟩ := List.mem_map.mp hx
      unfold mixedKey
      cases hv : weightCodeSum r shape with
      | none => exact Or.inl rfl
      | some v => exact Or.inr ⟨Int.natCast_nonneg v, Int.ofNat_lt.mpr (hb r hr v hv)⟩
  exact ⟨h.1, h.2.1, h.2.2.cc, h.2.2.un⟩

/-- the same with the dict tracker (`nb.typed.Dict`, empty at entry): no bound on the keys is needed and no `KeyError`
is raised -/
theorem source_combine_factorizations_dict (k : Kind) (rows : List (List Int)) (shape : List Nat) (hs : shape ≠ [])
    (hlen : ∀ r ∈ rows, r.length = shape.length) (hge : ∀ r ∈ rows, ∀ c ∈ r, -1 ≤ c) :
    let keys := rows.map (mixedKey shape)
    let L := dedup (keys.filter (fun x => decide (x ≠ -1)))
    let r := Generated.Loops.combine_factorizations_dict k rows.length shape.length (matOf rows)
      (LoopBridge.weightsOf shape).length (arrOf (LoopBridge.weightsOf shape) 0) 0 (fun _ => none)
    r.2 = false ∧ r.1.2.2 = (L.length : Int) ∧
      (∀ j : Nat, j < rows.length → r.1.1 (j : Int) = if keys.getD j 0 = -1 then -1 else (L.idxOf (keys.getD j 0) : Int)) ∧
      (∀ g : Nat, g < L.length → ∀ c : Int, r.1.2.1 (g : Int) c = matOf rows ((keys.idxOf (L.getD g 0) : Nat) : Int) c) := by
  have h := LoopBridge.combine_factorizations_dict_keys k rows.length _ (List.length_map _) shape.length (matOf rows) _ _
    (wcs_row_eq_mixedKey k rows shape hs hlen hge)
  exact ⟨h.1, h.2.1, h.2.2.cc, h.2.2.un⟩

/-- non-vacuity: two keys with shape (2, 3); rows (1,2) (0,1) (1,-1) (1,2) (0,1) (0,0): codes 0 1 -1 0 1 2, three
distinct keys, `uniques` holds the rows (1,2) (0,1) (0,0) -/
example :
    let rows : List (List Int) := [[1, 2], [0, 1], [1, -1], [1, 2], [0, 1], [0, 0]]
    let r := Generated.Loops.combine_factorizations_arr .f 6 2 (matOf rows) 2 (arrOf (LoopBridge.weightsOf [2, 3]) 0) 6
      (fun _ => -1)
    ((List.range 6).map (fun (j : Nat) => r.1.1 (j : Int)), r.1.2.2,
      (List.range 3).map (fun (g : Nat) => (r.1.2.1 (g : Int) 0, r.1.2.1 (g : Int) 1)), r.2)
      = ([0, 1, -1, 0, 1, 2], 3, [(1, 2), (0, 1), (0, 0)], false) := by decide

end GV.C02
