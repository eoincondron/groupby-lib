import GroupbyVerif.Props.C04
import GroupbyVerif.Generated.Constants
import GroupbyVerif.Lemmas.Factorize
import GroupbyVerif.Lemmas.RankFilter

/-!
# C03 — Results do not depend on the execution strategy

`parallel_map` gathers by submission index; two kernel calls agree because each is the per-group definition on the same
selection (C04); chunk-local codes through the pointer tables are the global codes.
-/

namespace GV.C03
open GV

/-! ### `parallel_map`: results are gathered by submission index, not by completion order -/

/-- the gathering loop of `util.parallel_map`: `results[index] = future.result()` in completion order -/
def gather {α : Type} (n : Nat) (completed : List (Nat × α)) : List (Option α) :=
  completed.foldl (fun res c => res.set c.1 (some c.2)) (List.replicate n none)

theorem gather_length {α : Type} (n : Nat) (completed : List (Nat × α)) : (gather n completed).length = n := by
  unfold gather
  suffices H : ∀ (init : List (Option α)), (completed.foldl (fun res c => res.set c.1 (some c.2)) init).length = init.length by
    simpa using H (List.replicate n none)
  induction completed with
  | nil => intro init; rfl
  | cons c cs ih => intro init; simp only [List.foldl_cons]; rw [ih]; simp

theorem foldl_set_not_mem {α : Type} (cs : List (Nat × α)) (l : List (Option α)) (i : Nat)
    (h : i ∉ cs.map (·.1)) : (cs.foldl (fun res c => res.set c.1 (some c.2)) l)[i]? = l[i]? := by
  induction cs generalizing l with
  | nil => rfl
  | cons d ds ih =>
    simp only [List.map_cons, List.mem_cons, not_or] at h
    simp only [List.foldl_cons]
    rw [ih _ h.2, List.getElem?_set_ne (fun e => h.1 e.symm)]

theorem gather_at {α : Type} (n : Nat) (completed : List (Nat × α)) (hnd : (completed.map (·.1)).Nodup)
    (i : Nat) (r : α) (hi : i < n) (hm : (i, r) ∈ completed) : (gather n completed)[i]? = some (some r) := by
  unfold gather
  suffices H : ∀ (init : List (Option α)), i < init.length →
      (completed.foldl (fun res c => res.set c.1 (some c.2)) init)[i]? = some (some r) by
    exact H _ (by simpa using hi)
  induction completed with
  | nil => simp at hm
  | cons c cs ih =>
    intro init hlen
    simp only [List.foldl_cons]
    simp only [List.map_cons, List.nodup_cons] at hnd
    rcases List.mem_cons.mp hm with h | h
    · subst h
      rw [foldl_set_not_mem cs _ i hnd.1]
      simp [hlen]
    · exact ih hnd.2 h _ (by simpa using hlen)

/-- **completion-order independence**: for every permutation of the completion order the gathered
results are exactly the task results in submission order -/
theorem parallel_map_order_independent {α : Type} (results : List α) (completed : List (Nat × α))
    (hperm : completed.Perm (results.zipIdx.map (fun p => (p.2, p.1)))) :
    gather results.length completed = results.map some := by
  apply List.ext_getElem?
  intro i
  by_cases hi : i < results.length
  · have hmem : (i, results[i]) ∈ completed := by
      rw [hperm.mem_iff]
      simp only [List.mem_map]
      exact ⟨(results[i], i), List.mk_mem_zipIdx_iff_getElem?.mpr (List.getElem?_eq_getElem hi), rfl⟩
    have hnd : (completed.map (·.1)).Nodup := by
      have h1 : (completed.map (·.1)).Perm ((results.zipIdx.map (fun p => (p.2, p.1))).map (·.1)) := hperm.map _
      rw [h1.nodup_iff]
      simp only [List.map_map, Function.comp_def]
      rw [show (results.zipIdx.map fun p => p.2) = List.range' 0 results.length by simp]
      exact List.nodup_range'
    rw [gather_at _ _ hnd i results[i] hi hmem]
    simp [hi]
  · have hle : results.length ≤ i := Nat.le_of_not_lt hi
    have h1 : (gather results.length completed)[i]? = none :=
      List.getElem?_eq_none_iff.mpr (by rw [gather_length]; exact hle)
    have h2 : (results.map some)[i]? = none :=
      List.getElem?_eq_none_iff.mpr (by rw [List.length_map]; exact hle)
    rw [h1, h2]

/-! ### threads / value chunking: any two strategies give the same per-group result -/

theorem kernel_strategy_independent (kn : Kernel) (k : Kind) (hk : k.Supported) (rows : List Row) (mask : Mask)
    (t1 t2 : Nat) (v1 v2 : Option (List Nat)) (p q : Int → Partial)
    (hwf : ∀ r ∈ rows, WF k r.2) (hm : ∀ m, mask = .bool m → m.length = rows.length)
    (hp : groupKernel modelReducers kn k rows mask t1 v1 = some p)
    (hq : groupKernel modelReducers kn k rows mask t2 v2 = some q) (g : Int) (hg : 0 ≤ g) :
    p g = q g := by
  obtain ⟨s1, h1, e1⟩ := C04.groupKernel_eq_def kn k hk rows mask t1 v1 p hwf hm hp g hg
  obtain ⟨s2, h2, e2⟩ := C04.groupKernel_eq_def kn k hk rows mask t2 v2 q hwf hm hq g hg
  rw [h1] at h2
  simp only [Option.some.injEq] at h2
  subst h2
  rw [e1, e2]

/-! ### chunk-wise factorization: local codes mapped through the pointer tables are the global codes -/

variable {κ : Type} [DecidableEq κ]

/-- pointer table of one chunk: position of each chunk-local unique in the unified label list
(`Index.get_indexer`) -/
def pointerOf (labels uniques : List κ) : List Nat := uniques.map (labels.idxOf ·)

/-- global code of a row of the chunk through the pointer table; the null code is kept -/
def globalCode (labels : List κ) (chunk : List (Option κ)) (key : Option κ) : Int :=
  let f := factorizeFirst chunk
  let c := codeOf f.2 key
  if c < 0 then -1 else ((pointerOf labels f.2).getD c.toNat 0 : Nat)

/-- **whole vs chunk-wise factorization**: for every row of a chunk, the chunk-local code mapped through
the chunk's pointer table equals the code the row gets against the unified label list directly —
provided the unified list contains the chunk's uniques (it is their de-duplicated union) -/
theorem chunk_route_eq_global (labels : List κ) (chunk : List (Option κ)) (key : Option κ) (hk : key ∈ chunk)
    (_hlab : ∀ x, some x ∈ chunk → x ∈ labels) :
    globalCode labels chunk key = codeOf labels key := by
  cases key with
  | none => simp [globalCode, codeOf]
  | some x =>
    have hx : x ∈ (factorizeFirst chunk).2 := mem_labels.mpr hk
    have hlt := List.idxOf_lt_length_of_mem hx
    simp only [globalCode, codeOf]
    have hnn : ¬ (((factorizeFirst chunk).2.idxOf x : Nat) : Int) < 0 := by omega
    simp only [hnn, if_false, Int.toNat_natCast, pointerOf]
    rw [List.getD_eq_getElem?_getD, List.getElem?_map, List.getElem?_eq_getElem hlt]
    simp [List.getElem_idxOf hlt]

/-! ### the block-wise strategy, stated about the translated source

`srcRun` runs `Generated.Loops.group_by_reduce` (regenerated from `numba._group_by_reduce` on every run) on one
block of rows; `srcCombine` is the fold of `combine_chunk_results_for_factorized_key` - `combined =
reduce_array_pair(combined, chunk, f, counts=combined_count, y_counts=count); combined_count += count` - written with
the translated `reduce_array_pair`.  The theorem below relates *source functions only*: whatever the block boundaries
(thread split, value chunks, key chunks), the merged partials equal the single pass over all the rows. -/

/-- one block of rows through the translated kernel of `kn` (target of `n` groups) -/
def srcRun (kn : Kernel) (k : Kind) (n : Nat) (b : List Row) : (Int → Val) × (Int → Int) :=
  (Generated.Loops.group_by_reduce k (b.map (·.1)).length (arrOf (b.map (·.1)) 0) (b.map (·.2)).length
    (arrOf (b.map (·.2)) .nan) n (fun _ => kn.init k) (kn.red generatedReducers k) false [] true).1

/-- `combine_chunk_results_for_factorized_key` with the translated `reduce_array_pair` -/
def srcCombine (kn : Kernel) (k : Kind) (n : Nat) (acc : (Int → Val) × (Int → Int)) (bs : List (List Row)) :
    (Int → Val) × (Int → Int) :=
  bs.foldl (fun acc b =>
    let r := srcRun kn k n b
    ((Generated.Loops.reduce_array_pair k n acc.1 n r.1 (kn.mergeRed generatedReducers k) true n acc.2 true n r.2).1,
      fun i => acc.2 i + r.2 i)) acc

theorem srcRun_eq (kn : Kernel) (k : Kind) (n : Nat) (b : List Row) (g : Int) (hg : 0 ≤ g) :
    ((srcRun kn k n b).1 g, (srcRun kn k n b).2 g) = groupByReduce (kn.red modelReducers k) (kn.init k) b g := by
  have h := LoopBridge.group_by_reduce_plain k (kn.red generatedReducers k) (kn.init k) (b.map (·.1)) (b.map (·.2))
    (by simp) n true g hg
  rw [zip_fst_snd, C04.generated_eq_model] at h
  exact h.2

theorem srcCombine_eq (kn : Kernel) (k : Kind) (n : Nat) (bs : List (List Row)) (acc : (Int → Val) × (Int → Int))
    (p : Int → Partial) (hacc : ∀ i : Nat, i < n → (acc.1 i, acc.2 i) = p i) (i : Nat) (hi : i < n) :
    ((srcCombine kn k n acc bs).1 i, (srcCombine kn k n acc bs).2 i)
      = (bs.map (groupByReduce (kn.red modelReducers k) (kn.init k))).foldl (mergeArr (kn.mergeRed modelReducers k)) p i := by
  induction bs generalizing acc p with
  | nil => exact hacc i hi
  | cons b bs ih =>
    simp only [srcCombine, List.foldl_cons, List.map_cons]
    apply ih
    intro j hj
    have hm := C04.source_merge_eq_mergePair kn k n acc.1 (srcRun kn k n b).1 acc.2 (srcRun kn k n b).2 j hj
    have hb := srcRun_eq kn k n b (j : Int) (by omega)
    have ha := hacc j hj
    show ((Generated.Loops.reduce_array_pair k n acc.1 n (srcRun kn k n b).1 (kn.mergeRed generatedReducers k) true n
      acc.2 true n (srcRun kn k n b).2).1 j, acc.2 j + (srcRun kn k n b).2 j) = _
    rw [hm.2, ha, hb]
    rfl

/-- **block-wise = single pass, at the source level**: for every kernel and supported dtype class and every list of
blocks (any number, any boundaries, empty blocks, groups absent from a block), the translated kernel run block by
block and merged by the translated `reduce_array_pair` in the order of `combine_chunk_results_for_factorized_key`
gives, at every group, what the translated kernel gives in one pass over all the rows -/
theorem source_blockwise_eq_single_pass (kn : Kernel) (k : Kind) (hk : k.Supported) (n : Nat)
    (b0 : List Row) (bs : List (List Row)) (hwf : C04.BlocksWF k (b0 :: bs)) (g : Nat) (hg : g < n) :
    let m := srcCombine kn k n (srcRun kn k n b0) bs
    let r := srcRun kn k n (b0 :: bs).flatten
    (m.1 g, m.2 g) = (r.1 g, r.2 g) := by
  intro m r
  have h1 := srcCombine_eq kn k n bs (srcRun kn k n b0) (groupByReduce (kn.red modelReducers k) (kn.init k) b0)
    (fun i _ => srcRun_eq kn k n b0 (i : Int) (by omega)) g hg
  obtain ⟨p, hp, hpg⟩ := C04.blockwise_eq_single_pass kn k hk b0 bs hwf (g : Int) (by omega)
  simp only [List.map_cons, combine, Option.some.injEq] at hp
  subst hp
  show ((srcCombine kn k n (srcRun kn k n b0) bs).1 g, (srcCombine kn k n (srcRun kn k n b0) bs).2 g) = _
  rw [h1, hpg]
  exact (srcRun_eq kn k n (b0 :: bs).flatten (g : Int) (by omega)).symm

/-- non-vacuity: three blocks (one empty, one where group 0 is absent), max over floats with a NaN and a null key -/
example :
    let bs : List (List Row) := [[], [(1, .num 9), (-1, .num 100)]]
    let b0 : List Row := [(0, .num 3), (1, .nan), (0, .num 1)]
    let m := srcCombine .max .f 2 (srcRun .max .f 2 b0) bs
    ((m.1 0, m.2 0), (m.1 1, m.2 1)) = ((.num 3, 2), (.num 9, 1)) := by decide

/-- `srcCombine` is a Lean fold written by hand after the ten-line Python loop of
`combine_chunk_results_for_factorized_key` (plain Python, not translated).  These facts are re-extracted from that
loop's AST on every run: it starts from the first block's partials, walks the remaining blocks in order, merges with
`reduce_array_pair(combined, chunk, f, counts=combined_count, y_counts=count)` and then adds the counts, and returns
both arrays - the shape `srcCombine` has.  An edit of the loop turns one of them false and fails this theorem. -/
theorem source_combine_fold_shape :
    Generated.Constants.combineStartsWithFirstBlock = true ∧ Generated.Constants.combineFoldsRemainingBlocksInOrder = true ∧
    Generated.Constants.combineMergesWithBothCounts = true ∧ Generated.Constants.combineReturnsBoth = true := by decide

end GV.C03
