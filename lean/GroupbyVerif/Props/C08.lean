import GroupbyVerif.Model.Cumulative
import GroupbyVerif.Lemmas.Scan
import GroupbyVerif.Props.C04
import GroupbyVerif.LoopBridge.Cumulative

/-!
# C08 — Cumulative operations are per-group prefix reductions

The cumulative loop `cumGo` is a `loopGo` (`Lemmas/Scan.lean`), so the cell of a row is its group's running partial over
the group's selected rows up to it; the single pass of a reducer is the per-group definition (`runRed_eq_spec`).
`source_loop_eq_spec` composes this with `LoopBridge/Cumulative.lean` into a statement about the translated loop.
-/

namespace GV.C08
open GV

/-- the loop's output at row `i` (non-null key `g`) is the running partial of group `g` over the
selected rows of the prefix `rows[0..i]` — for *any* starting state -/
theorem cumGo_at (red : Red) (st : Int → Partial) (rows : List CRow) (i : Nat) (r : CRow)
    (hi : rows[i]? = some r) (hg : 0 ≤ r.code) :
    (cumGo red st rows)[i]? = some (some ((selVals (rows.take (i + 1)) r.code).foldl (pstep red) (st r.code)).1) := by
  have hi' : (rows.map fun r => (r.code, r))[i]? = some (r.code, r) := by rw [List.getElem?_map, hi]; rfl
  rw [cumGo_eq_loopGo, loopGo_group _ _ _ _ i _ hi' hg, ← List.map_take, List.filter_map, List.map_map,
    ← foldl_cumStep, List.take_add_one, hi, List.filter_append, List.foldl_append]
  simp [Function.comp_def]

theorem cumGo_null_key (red : Red) (st : Int → Partial) (rows : List CRow) (i : Nat) (r : CRow)
    (hi : rows[i]? = some r) (hg : r.code < 0) : (cumGo red st rows)[i]? = some none := by
  rw [cumGo_eq_loopGo]
  exact loopGo_null _ _ _ _ i (r.code, r) (by rw [List.getElem?_map, hi]; rfl) hg

theorem specCum_getElem? (op : CumOp) (k : Kind) (rows : List CRow) (i : Nat) (r : CRow) (hi : rows[i]? = some r) :
    (specCum op k rows)[i]? = some (if r.code < 0 then none
      else some (specKernel (op.kernel true) k (selVals (rows.take (i + 1)) r.code)).1) := by
  rw [specCum, List.getElem?_map, List.getElem?_range (List.getElem?_eq_some_iff.mp hi).1, Option.map_some, hi]

/-- **cumsum / cummin / cummax / cumcount (null-skipping) = per-group prefix reduction**, for every
interleaving of groups, null placement and mask: the whole output equals the specification -/
theorem cum_eq_prefix (op : CumOp) (k : Kind) (rows : List CRow) :
    cumulativeReduce (op.red modelReducers k true) (op.init k) rows = specCum op k rows := by
  apply List.ext_getElem?
  intro i
  by_cases hi : i < rows.length
  · have hr := List.getElem?_eq_getElem hi
    rw [specCum_getElem? op k rows i _ hr, cumulativeReduce]
    by_cases hneg : rows[i].code < 0
    · rw [cumGo_null_key _ _ _ _ _ hr hneg, if_pos hneg]
    · -- the null-skipping operation accumulates with the reducer, and from the initial value, of its kernel
      rw [cumGo_at _ _ _ _ _ hr (Int.not_lt.mp hneg), if_neg hneg, ← runRed_eq_spec]
      cases op <;> rfl
  · have hle : rows.length ≤ i := Nat.le_of_not_lt hi
    rw [List.getElem?_eq_none_iff.mpr (by rw [cumulativeReduce, LoopBridge.cumGo_length]; exact hle),
      List.getElem?_eq_none_iff.mpr (by rw [specCum, List.length_map, List.length_range]; exact hle)]

theorem cum_cell (op : CumOp) (k : Kind) (rows : List CRow) (i : Nat) (r : CRow) (hi : rows[i]? = some r) :
    (cumulativeReduce (op.red modelReducers k true) (op.init k) rows)[i]?
      = some (if r.code < 0 then none
          else some (specKernel (op.kernel true) k (selVals (rows.take (i + 1)) r.code)).1) := by
  rw [cum_eq_prefix, specCum_getElem? op k rows i r hi]

/-- values of other groups and of unselected rows never enter a group's running value -/
theorem other_rows_inert (red : Red) (init : Val) (rows rows' : List CRow) (i : Nat) (r : CRow)
    (hi : rows[i]? = some r) (hi' : rows'[i]? = some r) (hg : 0 ≤ r.code)
    (h : selVals (rows.take (i + 1)) r.code = selVals (rows'.take (i + 1)) r.code) :
    (cumulativeReduce red init rows)[i]? = (cumulativeReduce red init rows')[i]? := by
  unfold cumulativeReduce
  rw [cumGo_at _ _ _ _ _ hi hg, cumGo_at _ _ _ _ _ hi' hg, h]

/-- the last cumulative value of a group is the group reduction over the whole input -/
theorem last_cum_eq_reduction (op : CumOp) (k : Kind) (rows : List CRow) (i : Nat) (r : CRow)
    (hi : rows[i]? = some r) (hg : 0 ≤ r.code)
    (hlast : selVals (rows.drop (i + 1)) r.code = []) :
    (specCum op k rows)[i]? = some (some (specKernel (op.kernel true) k (selVals rows r.code)).1) := by
  have hsplit := selVals_append (rows.take (i + 1)) (rows.drop (i + 1)) r.code
  rw [List.take_append_drop, hlast, List.append_nil] at hsplit
  rw [specCum_getElem? op k rows i r hi, if_neg (Int.not_lt.mpr hg), hsplit]

/-- a null makes the non-skipping running sum null from there on (float kind) -/
theorem cumsum_noskip_sticky_null (vs : List Val) (h : Val.nan ∈ vs) :
    (runRed (Scalar.sum .f) (.num 0) vs).1 = .nan := by
  -- `nan` absorbs under `Val.add`, from either side
  have add_nan : ∀ a : Val, a.add .nan = .nan := fun a => by cases a <;> rfl
  obtain ⟨a, b, rfl⟩ := List.append_of_mem h
  rw [runRed_sum, sumVals, List.foldl_append, List.foldl_cons, add_nan, foldl_fixed Val.add .nan fun _ => rfl]

/-- null-key rows are skipped by the loop (`if key < 0` guard present in the source) and the
count is kept in at least 32 bits -/
theorem source_facts : Generated.Constants.guardCumulative = true ∧ 32 ≤ Generated.Constants.cumCountWidth := by decide

/-- the cumulative loop of the current source has the shape the model `cumGo` stands for: one running row counter over
the (chunked) values in order, the reducer is applied to the output at the group's previously written position and writes
the current row, that position is recorded per group, a masked row copies the group's previous output -/
theorem source_loop_shape :
    Generated.Constants.cumUpdatesFromLastSeen = true ∧ Generated.Constants.cumLastSeenTracked = true ∧
    Generated.Constants.cumMaskedPassThrough = true ∧ Generated.Constants.cumRowCounter = true ∧
    Generated.Constants.cumRowsInOrder = true := by decide

/-- non-vacuity: two interleaved groups, a null value, a null key, a masked row -/
example : cumulativeReduce (Scalar.nansum .f) (.num 0)
    [⟨0, .num 1, true⟩, ⟨1, .num 5, true⟩, ⟨-1, .num 9, true⟩, ⟨0, .nan, true⟩, ⟨0, .num 7, false⟩, ⟨0, .num 2, true⟩]
    = [some (.num 1), some (.num 5), none, some (.num 1), some (.num 1), some (.num 3)] := by decide

/-! ### the translated loop, end to end -/

/-- skip a null (whatever becomes of the accumulator), count anything else: the shape of `nanR`, `Scalar.max`, `Scalar.min` -/
theorem skip_countOK (k : Kind) (f g h : Val → Val → Val) :
    LoopBridge.RedCountOK fun cur next count =>
      if isNull k next then (f cur next, count) else if count != 0 then (g cur next, count + 1) else (h cur next, count + 1) := by
  intro a v c
  dsimp only
  split
  · exact .inl rfl
  · split
    · exact .inr rfl
    · exact .inr rfl

/-- every reducer of the table counts at most one per row (needed for the `uint32` count array of the source) -/
theorem model_redCountOK (k : Kind) (name : String) : LoopBridge.RedCountOK (modelReducers k name) := by
  unfold modelReducers
  split
  · -- "sum"
    exact fun a v c => .inr (by unfold Scalar.sum; split <;> rfl)
  · -- "nansum"
    exact skip_countOK k _ _ _
  · -- "nansum_squares"
    exact skip_countOK k _ _ _
  · -- "max"
    exact skip_countOK k _ _ _
  · -- "nanmax"
    exact skip_countOK k _ _ _
  · -- "min"
    exact skip_countOK k _ _ _
  · -- "nanmin"
    exact skip_countOK k _ _ _
  · -- "nancount"
    intro a v c
    unfold Scalar.nancount
    split
    · exact .inl rfl
    · exact .inr rfl
  · -- "count"
    exact fun a v c => .inr rfl
  · -- "first"
    exact skip_countOK k _ _ _
  · -- any other name: `last`
    exact fun a v c => .inr (by unfold Scalar.last; split <;> rfl)

/-- **the translated `_cumulative_reduce`, run with the translated null-skipping reducer, is the per-group prefix
reduction**: `Generated.Loops.cumulative_reduce` is regenerated from `groupby_lib/groupby/numba.py` on every run;
for every chunking of the values, every mask and below `2^32` rows, the cell of every row holds the specification's
value (`specCum`), a null-key row keeps the target's initial value (it is overwritten with the null marker by
`_apply_cumulative` iff the returned flag is set, and the flag is set iff some key is null) -/
theorem source_loop_eq_spec (op : CumOp) (k : Kind) (codes : List Int) (chunks : List (List Val)) (msk : List Bool)
    (masked : Bool) (ng ml : Int) (hlen : codes.length = chunks.flatten.length)
    (hn : (codes.length : Int) < 2 ^ 32) :
    let rows := LoopBridge.cumRows codes chunks.flatten masked msk
    let r := Generated.Loops.cumulative_reduce k codes.length (arrOf codes 0) chunks (op.red generatedReducers k true) ng
      codes.length (fun _ => op.init k) masked ml (arrOf msk true)
    r.2 = false ∧ r.1.2 = rows.any (fun r => decide (r.code < 0)) ∧
      ∀ j, j < codes.length → r.1.1 (j : Int) = LoopBridge.outAt (op.init k) (specCum op k rows) j := by
  intro rows r
  have hok : LoopBridge.RedCountOK (op.red generatedReducers k true) := by
    rw [C04.generated_eq_model]
    unfold CumOp.red  -- before the cases: after them `exact` would evaluate the table lookup to match the name
    cases op <;> exact model_redCountOK k _
  have h := LoopBridge.cumulative_reduce_eq k (op.red generatedReducers k true) hok (op.init k) codes chunks msk masked
    ng ml hlen hn
  obtain ⟨h1, h2, h3⟩ := h
  refine ⟨h1, h2, fun j hj => ?_⟩
  rw [h3 j hj, C04.generated_eq_model, cum_eq_prefix]

/-- non-vacuity: two chunks, two groups, a null key, a masked row, a NaN: cumsum -/
example :
    let r := Generated.Loops.cumulative_reduce .f 5 (arrOf [0, 1, -1, 0, 1] 0)
      [[.num 1, .num 10], [.num 7, .nan, .num 5]] (CumOp.sum.red generatedReducers .f true) 2 5
      (fun _ => CumOp.sum.init .f) true 5 (arrOf [true, true, true, true, false] true)
    ((List.range 5).map fun (j : Nat) => r.1.1 (j : Int), r.1.2) = ([.num 1, .num 10, .num 0, .num 1, .num 10], true) := by
  decide

end GV.C08
