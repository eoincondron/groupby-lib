import GroupbyVerif.Props.C04
import GroupbyVerif.Props.C03
import GroupbyVerif.Props.C08
import GroupbyVerif.Props.C09
import GroupbyVerif.Lemmas.RankFilter

/-!
# C05 — A mask is equivalent to filtering the rows first

Row-aligned operations keep a cell for every row, so for them the statement is about positions: a selected row sits at
its rank among the selected rows, and its cell - a function of the selected values of its group so far - is the cell
the filtered run writes at that rank.
-/

namespace GV.C05
open GV

/-- **reductions (kernel level)**: the masked call — any mask kind, any thread count / value chunking —
returns for every group what the unmasked call returns on the filtered rows `rows[mask]` -/
theorem kernel_mask_eq_filter (kn : Kernel) (k : Kind) (hk : k.Supported) (rows : List Row) (mask : Mask)
    (threads threads' : Nat) (vch vch' : Option (List Nat)) (p q : Int → Partial) (sel : List Row)
    (hwf : ∀ r ∈ rows, WF k r.2) (hm : ∀ m, mask = .bool m → m.length = rows.length)
    (hsel : selectRows rows mask = some sel)
    (hp : groupKernel modelReducers kn k rows mask threads vch = some p)
    (hq : groupKernel modelReducers kn k sel .none threads' vch' = some q) (g : Int) (hg : 0 ≤ g) :
    p g = q g := by
  obtain ⟨s1, h1, e1⟩ := C04.groupKernel_eq_def kn k hk rows mask threads vch p hwf hm hp g hg
  have hwf' : ∀ r ∈ sel, WF k r.2 := fun r hr => hwf r (selectGen_mem rows mask sel hsel r hr)
  obtain ⟨s2, h2, e2⟩ := C04.groupKernel_eq_def kn k hk sel .none threads' vch' q hwf' (by intro m hm'; cases hm') hq g hg
  rw [hsel] at h1
  simp only [selectRows, selectGen, Option.some.injEq] at h1 h2
  subst h1; subst h2
  rw [e1, e2]

/-- unselected rows never influence a group: only `rows[mask]` enters the result -/
theorem unselected_rows_inert (kn : Kernel) (k : Kind) (hk : k.Supported) (rows rows' : List Row) (mask : Mask)
    (threads : Nat) (vch : Option (List Nat)) (p p' : Int → Partial)
    (hwf : ∀ r ∈ rows, WF k r.2) (hwf' : ∀ r ∈ rows', WF k r.2)
    (hm : ∀ m, mask = .bool m → m.length = rows.length) (hm' : ∀ m, mask = .bool m → m.length = rows'.length)
    (hsame : selectRows rows mask = selectRows rows' mask)
    (hp : groupKernel modelReducers kn k rows mask threads vch = some p)
    (hp' : groupKernel modelReducers kn k rows' mask threads vch = some p') (g : Int) (hg : 0 ≤ g) :
    p g = p' g := by
  obtain ⟨s1, h1, e1⟩ := C04.groupKernel_eq_def kn k hk rows mask threads vch p hwf hm hp g hg
  obtain ⟨s2, h2, e2⟩ := C04.groupKernel_eq_def kn k hk rows' mask threads vch p' hwf' hm' hp' g hg
  rw [hsame, h2] at h1
  simp only [Option.some.injEq] at h1
  subst h1
  rw [e1, e2]

/-! ### row-aligned operations: masked rows still occupy output slots -/

/-- the selected rows, with their selection flag -/
def filterSel (rows : List CRow) : List CRow := rows.filter (fun r => r.sel)

/-- rank of row `i` among the selected rows -/
def rankSel (rows : List CRow) (i : Nat) : Nat := (filterSel (rows.take i)).length

theorem filtered_at_rank (rows : List CRow) (i : Nat) (r : CRow) (hi : rows[i]? = some r) (hs : r.sel = true) :
    (filterSel rows)[rankSel rows i]? = some r ∧
    ∀ g, selVals ((filterSel rows).take (rankSel rows i + 1)) g = selVals (rows.take (i + 1)) g := by
  obtain ⟨hf, ht, -⟩ := filter_at_rank (·.sel) rows i r hi hs
  exact ⟨hf, fun g => by rw [filterSel, rankSel, filterSel, ht]; exact selVals_filter _ _ g fun _ _ h => h⟩

/-- **cumulative operations**: at every selected row the masked run produces what the run on the
filtered data produces at the row's rank -/
theorem cum_mask_eq_filter (op : CumOp) (k : Kind) (rows : List CRow) (i : Nat) (r : CRow)
    (hi : rows[i]? = some r) (hs : r.sel = true) :
    (cumulativeReduce (op.red modelReducers k true) (op.init k) rows)[i]?
      = (cumulativeReduce (op.red modelReducers k true) (op.init k) (filterSel rows))[rankSel rows i]? := by
  obtain ⟨hf, hv⟩ := filtered_at_rank rows i r hi hs
  rw [C08.cum_cell op k rows i r hi, C08.cum_cell op k _ _ r hf, hv]

theorem rolling_mask_eq_filter (k : Kind) (op : RollOp) (w minp : Nat) (hw : 0 < w) (rows : List CRow) (i : Nat)
    (r : CRow) (hi : rows[i]? = some r) (hg : 0 ≤ r.code) (hs : r.sel = true)
    (hok : C09.RollOK k op minp (selVals (rows.take (i + 1)) r.code)) :
    (rolling k op w minp rows)[i]? = (rolling k op w minp (filterSel rows))[rankSel rows i]? := by
  obtain ⟨hf, hv⟩ := filtered_at_rank rows i r hi hs
  rw [C09.rolling_eq_window k op w minp hw rows i r hi hg hs hok,
    C09.rolling_eq_window k op w minp hw (filterSel rows) (rankSel rows i) r hf hg hs (hv r.code ▸ hok), hv]

/-- **rolling sum**: the same relation (the window counts selected rows only) -/
theorem rolling_sum_mask_eq_filter (k : Kind) (w minp : Nat) (hw : 0 < w) (rows : List CRow) (i : Nat) (r : CRow)
    (hi : rows[i]? = some r) (hg : 0 ≤ r.code) (hs : r.sel = true) :
    (rolling k .sum w minp rows)[i]? = (rolling k .sum w minp (filterSel rows))[rankSel rows i]? :=
  rolling_mask_eq_filter k .sum w minp hw rows i r hi hg hs trivial

theorem rolling_mean_mask_eq_filter (k : Kind) (w minp : Nat) (hw : 0 < w) (rows : List CRow) (i : Nat) (r : CRow)
    (hi : rows[i]? = some r) (hg : 0 ≤ r.code) (hs : r.sel = true) :
    (rolling k .mean w minp rows)[i]? = (rolling k .mean w minp (filterSel rows))[rankSel rows i]? :=
  rolling_mask_eq_filter k .mean w minp hw rows i r hi hg hs trivial

/-- **rolling max / min**: the same relation -/
theorem rolling_extremum_mask_eq_filter (k : Kind) (wantMax : Bool) (w minp : Nat) (hw : 0 < w) (hminp : 0 < minp) (rows : List CRow)
    (hwf : ∀ r ∈ rows, WF k r.val) (i : Nat) (r : CRow)
    (hi : rows[i]? = some r) (hg : 0 ≤ r.code) (hs : r.sel = true) :
    (rolling k (if wantMax then .max else .min) w minp rows)[i]? =
      (rolling k (if wantMax then .max else .min) w minp (filterSel rows))[rankSel rows i]? :=
  rolling_mask_eq_filter k _ w minp hw rows i r hi hg hs (C09.rollOK_extremum k wantMax minp hminp rows hwf _ _)

/-- **shift / diff** (float view): "`window` rows earlier" counts selected rows of the group only -/
theorem rolling_shift_diff_mask_eq_filter (op : RollOp) (hop : op = .shift ∨ op = .diff) (w minp : Nat) (hw : 0 < w) (rows : List CRow)
    (i : Nat) (r : CRow) (hi : rows[i]? = some r) (hg : 0 ≤ r.code) (hs : r.sel = true) :
    (rolling .f op w minp rows)[i]? = (rolling .f op w minp (filterSel rows))[rankSel rows i]? :=
  rolling_mask_eq_filter .f op w minp hw rows i r hi hg hs (by rcases hop with rfl | rfl <;> rfl)

/-- non-vacuity -/
example : rankSel [⟨0, .num 1, true⟩, ⟨0, .num 5, false⟩, ⟨0, .num 2, true⟩] 2 = 1 := by decide

/-! ### stated about the translated source

`Generated.Loops.group_by_reduce` / `cumulative_reduce` are regenerated from `numba.py` on every run.  The statements
below relate two runs of the *translated source*: the masked run and the run on the filtered rows.

`cumulative_reduce` takes the code array with its length, the value chunks, the reducer, `ngroups`, the target with its
length, and the mask: whether it is given, its length, the array (`group_by_reduce`: see C04). -/

/-- one run of the translated `_group_by_reduce` through an indexer (what a positional mask, or a boolean mask after
`nonzero`, becomes) -/
def srcRunIdx (kn : Kernel) (k : Kind) (n : Nat) (b : List Row) (ps : List Int) : ((Int → Val) × (Int → Int)) × Bool :=
  Generated.Loops.group_by_reduce k (b.map (·.1)).length (arrOf (b.map (·.1)) 0) (b.map (·.2)).length
    (arrOf (b.map (·.2)) .nan) n (fun _ => kn.init k) (kn.red generatedReducers k) true ps true

/-- **positional mask = filtering first (translated source)**: for every list of positions that index the rows
(repeats and negative positions allowed) the translated kernel run through the indexer gives, at every group, what
the translated kernel gives on the selected rows `rows[positions]` - and raises no bounds error -/
theorem source_positions_eq_filter (kn : Kernel) (k : Kind) (n : Nat) (rows : List Row) (ps : List Int) (sel : List Row)
    (hsel : takePositions rows ps = some sel) (g : Int) (hg : 0 ≤ g) :
    let r := srcRunIdx kn k n rows ps
    let q := C03.srcRun kn k n sel
    r.2 = false ∧ (r.1.1 g, r.1.2 g) = (q.1 g, q.2 g) := by
  intro r q
  have h := C04.source_kernel_indexer_eq_def kn k (rows.map (·.1)) (rows.map (·.2)) (by simp) n ps sel
    (by rw [zip_fst_snd]; exact hsel) g hg
  have h2 := C03.srcRun_eq kn k n sel g hg
  show (srcRunIdx kn k n rows ps).2 = false ∧ ((srcRunIdx kn k n rows ps).1.1 g, (srcRunIdx kn k n rows ps).1.2 g)
    = ((C03.srcRun kn k n sel).1 g, (C03.srcRun kn k n sel).2 g)
  rw [h2, C04.kernel_eq_def _ _ _ _ hg]
  exact h

/-- **boolean mask = filtering first (translated source)**: the indexer is `nonzero(mask)` -/
theorem source_bool_mask_eq_filter (kn : Kernel) (k : Kind) (n : Nat) (rows : List Row) (m : List Bool)
    (hm : m.length = rows.length) (g : Int) (hg : 0 ≤ g) :
    let r := srcRunIdx kn k n rows ((nonzero m).map Int.ofNat)
    let q := C03.srcRun kn k n (selectBool rows m)
    r.2 = false ∧ (r.1.1 g, r.1.2 g) = (q.1 g, q.2 g) :=
  source_positions_eq_filter kn k n rows _ _ (takePositions_nonzero rows m hm) g hg

/-- non-vacuity: a boolean mask dropping a row of each group, sum -/
example :
    let rows : List Row := [(0, .num 3), (1, .num 5), (0, .num 4), (1, .num 7)]
    let r := srcRunIdx .sum .f 2 rows ((nonzero [true, false, true, true]).map Int.ofNat)
    (r.1.1 0, r.1.1 1, r.2) = (.num 7, .num 7, false) := by unfold srcRunIdx; decide

/-- the translated `_cumulative_reduce` on a list of rows with their selection flags (one chunk of values) -/
def srcCum (op : CumOp) (k : Kind) (ng : Int) (rows : List CRow) : ((Int → Val) × Bool) × Bool :=
  Generated.Loops.cumulative_reduce k (rows.map (·.code)).length (arrOf (rows.map (·.code)) 0)
    [rows.map (·.val)] (op.red generatedReducers k true) ng (rows.map (·.code)).length (fun _ => op.init k) true
    (rows.map (·.sel)).length (arrOf (rows.map (·.sel)) true)

theorem cumRows_of_rows (rows : List CRow) :
    LoopBridge.cumRows (rows.map (·.code)) (rows.map (·.val)) true (rows.map (·.sel)) = rows := by
  rw [LoopBridge.cumRows, List.length_map, map_range_of_getElem? rows _ id, List.map_id]
  intro i r hi
  simp only [getD_map_of_getElem? _ rows i r _ hi, Bool.true_and, Bool.not_not, id]

theorem forall_single_chunk {α β : Type} (f : α → β) (l : List α) (Q : β → Prop) (h : ∀ a ∈ l, Q (f a)) :
    ∀ v ∈ [l.map f].flatten, Q v := by
  intro v hv
  rw [List.flatten_cons, List.flatten_nil, List.append_nil] at hv
  obtain ⟨a, ha, rfl⟩ := List.mem_map.mp hv
  exact h a ha

theorem srcCum_eq (op : CumOp) (k : Kind) (ng : Int) (rows : List CRow) (hn : (rows.length : Int) < 2 ^ 32)
    (j : Nat) (hj : j < rows.length) :
    (srcCum op k ng rows).1.1 (j : Int)
      = LoopBridge.outAt (op.init k) (cumulativeReduce (op.red modelReducers k true) (op.init k) rows) j := by
  have h := C08.source_loop_eq_spec op k (rows.map (·.code)) [rows.map (·.val)] (rows.map (·.sel)) true ng
    ((rows.map (·.sel)).length : Int) (by simp) (by simpa using hn)
  simp only [List.flatten_cons, List.flatten_nil, List.append_nil, cumRows_of_rows] at h
  rw [C08.cum_eq_prefix]
  unfold srcCum
  exact h.2.2 j (by simpa using hj)

/-- **cumulative operations, mask = filtering first (translated source)**: at every selected row the masked run of
the translated loop writes what the run on the filtered rows writes at the row's rank -/
theorem source_cum_mask_eq_filter (op : CumOp) (k : Kind) (ng : Int) (rows : List CRow)
    (hn : (rows.length : Int) < 2 ^ 32) (i : Nat) (r : CRow) (hi : rows[i]? = some r) (hs : r.sel = true) :
    (srcCum op k ng rows).1.1 (i : Int) = (srcCum op k ng (filterSel rows)).1.1 (rankSel rows i : Int) := by
  have hlt := (List.getElem?_eq_some_iff.mp hi).1
  have hlt' := (List.getElem?_eq_some_iff.mp (filtered_at_rank rows i r hi hs).1).1
  have hle : (filterSel rows).length ≤ rows.length := List.length_filter_le _ _
  rw [srcCum_eq op k ng rows hn i hlt, srcCum_eq op k ng (filterSel rows) (by omega) _ hlt', LoopBridge.outAt,
    LoopBridge.outAt, cum_mask_eq_filter op k rows i r hi hs]

/-! ### rolling kernels, stated about the translated source

Each translated rolling kernel is characterised (C09, `source_rolling_*_eq_window`) by "the cell of a selected row with
a non-null key is a function of the selected values of its group up to that row".  Any function of that shape
commutes with deleting the unselected rows (here) and the null-key rows (C06).

The rolling kernels take the code array with its length, the value chunks, `ngroups`, the window, `min_periods` (whether
given, its value; `None` means the window, hence `minp.getD w` in the specification), the mask (as above), the null
marker and the flag that picks mean / max. -/

/-- a row-aligned output that only depends on the selected values of the row's group so far -/
def WindowFn (P : List CRow → Prop) (out : List CRow → Int → Val) (F : List Val → Val) : Prop :=
  ∀ (rows : List CRow) (i : Nat) (r : CRow), P rows → rows[i]? = some r → 0 ≤ r.code → r.sel = true →
    out rows (i : Int) = F (selVals (rows.take (i + 1)) r.code)

theorem WindowFn.mask_eq_filter {P : List CRow → Prop} {out : List CRow → Int → Val} {F : List Val → Val}
    (h : WindowFn P out F) (hP : ∀ rows, P rows → P (filterSel rows))
    (rows : List CRow) (i : Nat) (r : CRow) (hp : P rows) (hi : rows[i]? = some r) (hg : 0 ≤ r.code) (hs : r.sel = true) :
    out rows (i : Int) = out (filterSel rows) (rankSel rows i : Int) := by
  obtain ⟨hf, hv⟩ := filtered_at_rank rows i r hi hs
  rw [h rows i r hp hi hg hs, h (filterSel rows) (rankSel rows i) r (hP rows hp) hf hg hs, hv]

/-- the translated `_rolling_sum_or_mean_1d` on a list of rows (one chunk, mask given) -/
def srcRollSum (k : Kind) (divf : Val → Int → Val) (op : RollOp) (w : Nat) (minp : Option Nat) (ng : Int)
    (rows : List CRow) : Int → Val :=
  (Generated.Loops.rolling_sum_or_mean k divf (rows.map (·.code)).length (arrOf (rows.map (·.code)) 0) [rows.map (·.val)]
    ng w minp.isSome (minp.getD 0) true (rows.map (·.sel)).length (arrOf (rows.map (·.sel)) true) (nullValue k)
    (decide (op = .mean))).1

theorem srcRollSum_window (k : Kind) (divf : Val → Int → Val) (op : RollOp) (hop : op = .sum ∨ op = .mean) (w : Nat)
    (hw : 0 < w) (minp : Option Nat) (ng : Int) (hnv : LoopBridge.NumOrNull k (nullValue k)) :
    WindowFn (fun rows => ∀ r ∈ rows, LoopBridge.NumOrNull k r.val) (srcRollSum k divf op w minp ng)
      (fun hist => LoopBridge.cellVal divf (nullValue k) (specRollAt k op w (minp.getD w) hist)) := by
  intro rows i r hp hi hg hs
  have hlt := (List.getElem?_eq_some_iff.mp hi).1
  have h := C09.source_rolling_sum_mean_eq_window k divf op hop w hw minp (rows.map (·.code)) [rows.map (·.val)]
    (rows.map (·.sel)) true ng ((rows.map (·.sel)).length : Int) (nullValue k) (by simp)
    (forall_single_chunk (·.val) rows _ hp)
    hnv rfl i (by simpa using hlt)
    (by rw [getD_map_of_getElem? _ _ _ _ _ hi]; exact hg)
    (by rw [getD_map_of_getElem? _ _ _ _ _ hi, hs]; rfl)
  simp only [List.flatten_cons, List.flatten_nil, List.append_nil, cumRows_of_rows,
    getD_map_of_getElem? (·.code) rows i r 0 hi] at h
  exact h

/-- **rolling sum / mean, mask = filtering first (translated source)** -/
theorem source_rolling_sum_mask_eq_filter (k : Kind) (divf : Val → Int → Val) (op : RollOp) (hop : op = .sum ∨ op = .mean)
    (w : Nat) (hw : 0 < w) (minp : Option Nat) (ng : Int) (hnv : LoopBridge.NumOrNull k (nullValue k))
    (rows : List CRow) (hwf : ∀ r ∈ rows, LoopBridge.NumOrNull k r.val) (i : Nat) (r : CRow)
    (hi : rows[i]? = some r) (hg : 0 ≤ r.code) (hs : r.sel = true) :
    srcRollSum k divf op w minp ng rows (i : Int) = srcRollSum k divf op w minp ng (filterSel rows) (rankSel rows i : Int) :=
  (srcRollSum_window k divf op hop w hw minp ng hnv).mask_eq_filter
    (fun _ hp r hr => hp r (List.mem_filter.mp hr).1) rows i r hwf hi hg hs

/-- the translated `_rolling_max_or_min_1d` on a list of rows -/
def srcRollMax (k : Kind) (wantMax : Bool) (w : Nat) (minp : Option Nat) (ng : Int) (rows : List CRow) : Int → Val :=
  (Generated.Loops.rolling_max_or_min k (rows.map (·.code)).length (arrOf (rows.map (·.code)) 0) [rows.map (·.val)]
    ng w minp.isSome (minp.getD 0) true (rows.map (·.sel)).length (arrOf (rows.map (·.sel)) true) (nullValue k) wantMax).1

theorem srcRollMax_window (k : Kind) (wantMax : Bool) (w : Nat) (hw : 0 < w) (minp : Option Nat) (hminp : 0 < minp.getD w)
    (ng : Int) :
    WindowFn (fun rows => (∀ r ∈ rows, WF k r.val) ∧ (∀ r ∈ rows, r.val = .nan → nullValue k = .nan))
      (srcRollMax k wantMax w minp ng)
      (fun hist => LoopBridge.cellVal (fun a _ => a) (nullValue k)
        (specRollAt k (if wantMax then RollOp.max else RollOp.min) w (minp.getD w) hist)) := by
  intro rows i r hp hi hg hs
  have hlt := (List.getElem?_eq_some_iff.mp hi).1
  have h := (C09.source_rolling_max_min_eq_window k wantMax w hw minp hminp (rows.map (·.code)) [rows.map (·.val)]
    (rows.map (·.sel)) true ng ((rows.map (·.sel)).length : Int) (by simp)
    (forall_single_chunk (·.val) rows _ hp.1) (forall_single_chunk (·.val) rows _ hp.2)
    i (by simpa using hlt)
    (by rw [getD_map_of_getElem? _ _ _ _ _ hi]; exact hg)
    (by rw [getD_map_of_getElem? _ _ _ _ _ hi, hs]; rfl)).2
  simp only [List.flatten_cons, List.flatten_nil, List.append_nil, cumRows_of_rows,
    getD_map_of_getElem? (·.code) rows i r 0 hi] at h
  exact h

/-- **rolling max / min, mask = filtering first (translated source)** -/
theorem source_rolling_max_mask_eq_filter (k : Kind) (wantMax : Bool) (w : Nat) (hw : 0 < w) (minp : Option Nat)
    (hminp : 0 < minp.getD w) (ng : Int) (rows : List CRow) (hwf : ∀ r ∈ rows, WF k r.val)
    (hnan : ∀ r ∈ rows, r.val = .nan → nullValue k = .nan) (i : Nat) (r : CRow)
    (hi : rows[i]? = some r) (hg : 0 ≤ r.code) (hs : r.sel = true) :
    srcRollMax k wantMax w minp ng rows (i : Int) = srcRollMax k wantMax w minp ng (filterSel rows) (rankSel rows i : Int) :=
  (srcRollMax_window k wantMax w hw minp hminp ng).mask_eq_filter
    (fun _ hp => ⟨fun r hr => hp.1 r (List.mem_filter.mp hr).1, fun r hr => hp.2 r (List.mem_filter.mp hr).1⟩)
    rows i r ⟨hwf, hnan⟩ hi hg hs

end GV.C05
