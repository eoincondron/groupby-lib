import GroupbyVerif.Props.C04
import GroupbyVerif.Lemmas.Margins

/-!
# C14 — Margins and cross-tabulation totals equal the aggregate of what they summarise

`add_row_margin` computes an `All` row by re-aggregating the *per-group results* over the other
levels.  That equals the direct aggregation over the rows it summarises because the partial
results form a monoid (C04) and the labels partition the rows (`aggM_partition`).
-/

namespace GV.C14
open GV

variable {κ : Type} [DecidableEq κ]

def gsum (rows : List (κ × Int)) (ℓ : κ) : Int := ((rows.filter (fun r => r.1 = ℓ)).map (·.2)).sum

/-- **sum / count / size margins**: the sum over the (distinct) labels of the per-label sums equals the
direct sum over all selected rows — re-aggregating per-group results gives the total -/
theorem margin_sum_eq_direct (rows : List (κ × Int)) (labels : List κ) (hnd : labels.Nodup)
    (hcov : ∀ r ∈ rows, r.1 ∈ labels) :
    (labels.map (gsum rows)).sum = (rows.map (·.2)).sum := by
  have h := aggM_partition sum_laws (·.1) (·.2) labels hnd rows
  rwa [List.filter_eq_self.mpr (by simpa using hcov)] at h

/-- **min / max margins (null-aware)**: merging the per-group partial results with the count-aware merge
gives the partial of all rows: the extreme of the extremes is the extreme, and groups whose
values are all null (count 0) do not disturb it.  This is the block theorem of C04 with "block" =
"group". -/
theorem margin_extremum_eq_direct (kn : Kernel) (k : Kind) (hk : k.Supported) (groups : List (List Val))
    (hwf : ∀ g ∈ groups, ∀ v ∈ g, WF k v) :
    (groups.map fun vs => runRed (kn.red modelReducers k) (kn.init k) vs).foldl
        (mergePair (kn.mergeRed modelReducers k)) (kn.init k, 0)
      = runRed (kn.red modelReducers k) (kn.init k) groups.flatten :=
  foldl_chunks _ _ (runRed (kn.red modelReducers k) (kn.init k)) (fun vs => ∀ v ∈ vs, WF k v)
    (fun _ _ hx hy => List.forall_mem_append.mpr ⟨hx, hy⟩) (runRed_append kn k hk) [] groups nofun hwf

/-- a cross-tabulation cell is the two-key group result; its row / column margins are the one-way
aggregations: instance of `margin_sum_eq_direct` with the labels of the *other* key -/
theorem crosstab_margin_eq_oneway (rows : List ((κ × κ) × Int)) (r : κ) (cols : List κ) (hnd : cols.Nodup)
    (hcov : ∀ x ∈ rows, x.1.1 = r → x.1.2 ∈ cols) :
    (cols.map fun c => gsum rows (r, c)).sum = ((rows.filter (fun x => x.1.1 = r)).map (·.2)).sum := by
  have h := margin_sum_eq_direct ((rows.filter (fun x => x.1.1 = r)).map (fun x => (x.1.2, x.2))) cols hnd
    (by
      intro y hy
      simp only [List.mem_map, List.mem_filter, decide_eq_true_eq] at hy
      obtain ⟨x, ⟨hx, hxr⟩, rfl⟩ := hy
      exact hcov x hx hxr)
  have hg : ∀ c, gsum ((rows.filter (fun x => x.1.1 = r)).map (fun x => (x.1.2, x.2))) c = gsum rows (r, c) := by
    intro c
    simp only [gsum, List.filter_map, List.map_map, List.filter_filter]
    congr 2
    apply List.filter_congr
    intro x _
    simp only [Function.comp_apply, Bool.decide_and, Prod.ext_iff, Bool.and_comm]
  rw [List.map_congr_left (fun c _ => (hg c).symm), h]
  simp [List.map_map, Function.comp_def]

example : gsum [((1 : Nat), (5 : Int)), (2, 7), (1, -2)] 1 = 3 := by decide

/-! ## `add_row_margin` end to end

`Model/Margins.lean` is the executable model of the recursive function (tied to the source by the
driver op `margins`).  A label with margins is a pattern, `none` = `'All'`. -/

/-- `g`: any function with the three equations of the lift of `f` to `Option` (`omax`, `omin`) -/
theorem optionLift_laws {α : Type} (f : α → α → α) (hassoc : ∀ a b c, f (f a b) c = f a (f b c))
    (hcomm : ∀ a b, f a b = f b a) (g : Option α → Option α → Option α)
    (h1 : ∀ b, g none b = b) (h2 : ∀ a, g a none = a) (h3 : ∀ a b, g (some a) (some b) = some (f a b)) :
    AggLaws g none := by
  refine ⟨?_, ?_, h2⟩
  · intro a b c
    cases a <;> cases b <;> cases c <;> simp only [h1, h2, h3, hassoc]
  · intro a b
    cases a <;> cases b <;> simp only [h1, h2, h3]
    rw [hcomm]

theorem omax_laws : AggLaws omax none :=
  optionLift_laws max Int.max_assoc Int.max_comm omax (fun b => by cases b <;> rfl) (fun a => by cases a <;> rfl)
    (fun a b => by
      by_cases h : a < b
      · rw [omax, if_pos h, Int.max_eq_right (Int.le_of_lt h)]
      · rw [omax, if_neg h, Int.max_eq_left (Int.not_lt.mp h)])

theorem omin_laws : AggLaws omin none :=
  optionLift_laws min Int.min_assoc Int.min_comm omin (fun b => by cases b <;> rfl) (fun a => by cases a <;> rfl)
    (fun a b => by
      by_cases h : b < a
      · rw [omin, if_pos h, Int.min_eq_right (Int.le_of_lt h)]
      · rw [omin, if_neg h, Int.min_eq_left (Int.not_lt.mp h)])

/-- the per-group results of a reduction over raw rows (label tuple, value); `regroup op e id rows` by `rfl`, and
used as such below -/
def perGroup {M : Type} (op : M → M → M) (e : M) (rows : List (List κ × M)) : List (List κ × M) :=
  (dedup (rows.map (·.1))).map fun l => (l, aggM op e ((rows.filter fun r => r.1 = l).map (·.2)))

theorem perGroup_length {M : Type} (op : M → M → M) (e : M) (rows : List (List κ × M)) (n : Nat)
    (hlen : ∀ r ∈ rows, r.1.length = n) : ∀ r ∈ perGroup op e rows, r.1.length = n := by
  intro r hr
  obtain ⟨s, hs, hsr⟩ := (mem_regroup_labels (op := op) (e := e) id rows r.1).mp (List.mem_map_of_mem (f := (·.1)) hr)
  exact hsr ▸ hlen s hs

/-- **margins equal the aggregate of what they summarise** (any commutative-monoid aggregation: sum /
count / size with `+`, null-skipping max / min): every row `add_row_margin` returns for the table
of per-group results — ordinary or with `'All'` at any requested levels — holds the aggregate of
exactly the raw rows whose label matches the pattern -/
theorem margins_eq_aggregate_of_rows {M : Type} {op : M → M → M} {e : M} (h : AggLaws op e)
    (n : Nat) (hn : 0 < n) (levels : Option (List Nat)) (hlv : ∀ lv, levels = some lv → ∀ l ∈ lv, l < n)
    (rows : List (List κ × M)) (hlen : ∀ r ∈ rows, r.1.length = n)
    (r : Pat κ × M) (hr : r ∈ addRowMargin op e n levels (perGroup op e rows)) :
    r.2 = directAgg op e rows r.1 :=
  (addRowMargin_sound h n levels _ hn (perGroup_length op e rows n hlen) (regroup_nodup id rows) hlv r hr).trans
    (aggM_regroup h id rows (matchesPat r.1))

/-- instances: sum (also count and size, which are sums of per-group counts), max, min -/
theorem sum_margins (n : Nat) (hn : 0 < n) (levels : Option (List Nat)) (hlv : ∀ lv, levels = some lv → ∀ l ∈ lv, l < n)
    (rows : List (List κ × Int)) (hlen : ∀ r ∈ rows, r.1.length = n)
    (r : Pat κ × Int) (hr : r ∈ addRowMargin (fun a b : Int => a + b) 0 n levels (perGroup (fun a b : Int => a + b) 0 rows)) :
    r.2 = ((rows.filter fun s => matchesPat r.1 s.1).map (·.2)).sum := by
  rw [margins_eq_aggregate_of_rows sum_laws n hn levels hlv rows hlen r hr]
  rfl

theorem max_margins (n : Nat) (hn : 0 < n) (levels : Option (List Nat)) (hlv : ∀ lv, levels = some lv → ∀ l ∈ lv, l < n)
    (rows : List (List κ × Option Int)) (hlen : ∀ r ∈ rows, r.1.length = n)
    (r : Pat κ × Option Int) (hr : r ∈ addRowMargin omax none n levels (perGroup omax none rows)) :
    r.2 = directAgg omax none rows r.1 :=
  margins_eq_aggregate_of_rows omax_laws n hn levels hlv rows hlen r hr

theorem min_margins (n : Nat) (hn : 0 < n) (levels : Option (List Nat)) (hlv : ∀ lv, levels = some lv → ∀ l ∈ lv, l < n)
    (rows : List (List κ × Option Int)) (hlen : ∀ r ∈ rows, r.1.length = n)
    (r : Pat κ × Option Int) (hr : r ∈ addRowMargin omin none n levels (perGroup omin none rows)) :
    r.2 = directAgg omin none rows r.1 :=
  margins_eq_aggregate_of_rows omin_laws n hn levels hlv rows hlen r hr

/-- the ordinary rows are returned unchanged -/
theorem ordinary_rows_unchanged {M : Type} (op : M → M → M) (e : M) (n : Nat) (hn : 0 < n) (levels : Option (List Nat))
    (hlv : ∀ lv, levels = some lv → ∀ l ∈ lv, l < n)
    (data : List (List κ × M)) (hlen : ∀ r ∈ data, r.1.length = n) (s : List κ × M) (hs : s ∈ data) :
    s.1.map some ∈ (addRowMargin op e n levels data).map (·.1) :=
  (addRowMargin_labels n levels data hn (List.ne_nil_of_mem hs) hlen hlv _).mpr
    ⟨⟨s, hs, (plain_matches s.1).1⟩, fun _ l _ hall => absurd hall ((plain_matches s.1).2 l)⟩

/-- **`'All'` only where requested, and every requested total is there**: for a table with at least two
levels the patterns of the output are exactly those that summarise at least one row and have `'All'`
only at requested levels -/
theorem margin_labels_exact {M : Type} (op : M → M → M) (e : M) (n : Nat) (levels : Option (List Nat))
    (hlv : ∀ lv, levels = some lv → ∀ l ∈ lv, l < n + 2)
    (data : List (List κ × M)) (hne : data ≠ []) (hlen : ∀ r ∈ data, r.1.length = n + 2) (p : Pat κ) :
    p ∈ (addRowMargin op e (n + 2) levels data).map (·.1) ↔
      (∃ s ∈ data, matchesPat p s.1 = true) ∧
        ∀ l, l < n + 2 → p[l]? = some none → l ∈ levels.getD (List.range (n + 2)) := by
  rw [addRowMargin_labels (n + 2) levels data (Nat.succ_pos _) hne hlen hlv p]
  exact and_congr_right fun _ => ⟨fun h => h (Nat.le_add_left 2 n), fun h _ => h⟩

/-- pasting summaries over each other (`out.loc[summary.index] = summary`) is harmless: two output rows
with the same label hold the same value -/
theorem same_label_same_value {M : Type} {op : M → M → M} {e : M} (h : AggLaws op e)
    (n : Nat) (hn : 0 < n) (levels : Option (List Nat)) (hlv : ∀ lv, levels = some lv → ∀ l ∈ lv, l < n)
    (data : List (List κ × M)) (hlen : ∀ r ∈ data, r.1.length = n) (hnd : (data.map (·.1)).Nodup)
    (r r' : Pat κ × M) (hr : r ∈ addRowMargin op e n levels data) (hr' : r' ∈ addRowMargin op e n levels data)
    (hp : r.1 = r'.1) : r.2 = r'.2 := by
  rw [addRowMargin_sound h n levels data hn hlen hnd hlv r hr,
    addRowMargin_sound h n levels data hn hlen hnd hlv r' hr', hp]

/-- the mean-of-means trap: groups {1} and {3, 5, 7}: mean of means = 3, true mean = 4 -/
example : ((1 : Rat) / 1 + (3 + 5 + 7) / 3) / 2 = 3 ∧ ((1 + (3 + 5 + 7) : Rat)) / (1 + 3) = 4 := by
  constructor <;> decide +kernel

/-- **mean margins**: a margin row of a mean is (sum of the summarised groups' sums) over (sum of their
counts) — the total sum over the total count, NOT the mean of the group means -/
theorem mean_margin_is_sum_over_count (n : Nat) (hn : 0 < n) (levels : Option (List Nat))
    (hlv : ∀ lv, levels = some lv → ∀ l ∈ lv, l < n)
    (data : List (List κ × (Int × Int))) (hne : data ≠ []) (hlen : ∀ r ∈ data, r.1.length = n)
    (hnd : (data.map (·.1)).Nodup)
    (r : Pat κ × Int × Option Int) (hr : r ∈ meanMargins n levels data) :
    r.2.1 = directAgg (fun a b : Int => a + b) 0 (data.map fun d => (d.1, d.2.1)) r.1 ∧
    r.2.2 = some (directAgg (fun a b : Int => a + b) 0 (data.map fun d => (d.1, d.2.2)) r.1) := by
  simp only [meanMargins, List.mem_map] at hr
  obtain ⟨q, hq, rfl⟩ := hr
  have hlen' : ∀ f : Int × Int → Int, ∀ r ∈ data.map (fun d => (d.1, f d.2)), r.1.length = n := by
    intro f r hr; obtain ⟨d, hd, rfl⟩ := List.mem_map.mp hr; exact hlen d hd
  have hnd' : ∀ f : Int × Int → Int, ((data.map fun d => (d.1, f d.2)).map (·.1)).Nodup := fun f => by
    simpa [List.map_map, Function.comp_def] using hnd
  refine ⟨addRowMargin_sound sum_laws n levels _ hn (hlen' (·.1)) (hnd' (·.1)) hlv q hq, ?_⟩
  -- so the label of a row of the sum margins is a label of the count margins
  have hqC : q.1 ∈ (addRowMargin (fun a b : Int => a + b) 0 n levels (data.map fun d => (d.1, d.2.2))).map (·.1) := by
    obtain ⟨⟨s, hs, hm⟩, hreq⟩ := (addRowMargin_labels n levels _ hn (by simpa using hne) (hlen' (·.1)) hlv q.1).mp
      (List.mem_map_of_mem (f := (·.1)) hq)
    obtain ⟨d, hd, rfl⟩ := List.mem_map.mp hs
    exact (addRowMargin_labels n levels _ hn (by simpa using hne) (hlen' (·.2)) hlv q.1).mpr
      ⟨⟨(d.1, d.2.2), List.mem_map_of_mem (f := fun d => (d.1, d.2.2)) hd, hm⟩, hreq⟩
  obtain ⟨v, hv, hmem⟩ := lookupP_mem q.1 _ hqC
  have hC := addRowMargin_sound sum_laws n levels _ hn (hlen' (·.2)) (hnd' (·.2)) hlv (q.1, v) hmem
  simp only at hC ⊢
  rw [hv, hC]

/-! ### cross-tabulation: which levels get totals

`crosstab(index, columns, margins=...)` groups by `index + columns` and asks `add_row_margin` for the
row-key levels (`margins in (True, "row")`) and / or the column-key levels (`True`, `"column"`), then
unstacks the column levels.  A cell is the output row whose pattern is (row label ++ column label).
There is at least one row key and one column key, hence `2 ≤ n0 + n1` below: with a single level
`add_row_margin` does not look at the requested levels at all.  `CtMargins` / `crosstabLevels` are a transcription by
hand: the check compares the library with the same rule written in Python (`tools/harness/props/c14.py`). -/

inductive CtMargins where
  | off | both | row | column
deriving DecidableEq, Repr

def crosstabLevels (n0 n1 : Nat) : CtMargins → List Nat
  | .off => []
  | .both => List.range n0 ++ (List.range n1).map (· + n0)
  | .row => List.range n0
  | .column => (List.range n1).map (· + n0)

theorem mem_crosstabLevels (n0 n1 : Nat) (m : CtMargins) (l : Nat) : l ∈ crosstabLevels n0 n1 m ↔
    l < n0 ∧ (m = .both ∨ m = .row) ∨ (n0 ≤ l ∧ l < n0 + n1) ∧ (m = .both ∨ m = .column) := by
  have hcol : l ∈ (List.range n1).map (· + n0) ↔ n0 ≤ l ∧ l < n0 + n1 := by
    rw [show (· + n0) = (n0 + ·) from funext fun a => Nat.add_comm a n0, ← List.range'_eq_map_range,
      List.mem_range'_1]
  cases m <;> simp [crosstabLevels, hcol]

/-- **cross-tab totals**: every cell and every total of the table holds the aggregate of the rows its
(row label, column label) pattern summarises; a total over a row key appears only with
`margins in (True, "row")`, a total over a column key only with `margins in (True, "column")` -/
theorem crosstab_cells_and_totals {M : Type} {op : M → M → M} {e : M} (h : AggLaws op e) (n0 n1 : Nat)
    (hn : 2 ≤ n0 + n1) (m : CtMargins) (rows : List (List κ × M)) (hlen : ∀ r ∈ rows, r.1.length = n0 + n1)
    (r : Pat κ × M) (hr : r ∈ addRowMargin op e (n0 + n1) (some (crosstabLevels n0 n1 m)) (perGroup op e rows)) :
    r.2 = directAgg op e rows r.1 ∧
    (∀ l, l < n0 → r.1[l]? = some none → m = .both ∨ m = .row) ∧
    (∀ l, n0 ≤ l → l < n0 + n1 → r.1[l]? = some none → m = .both ∨ m = .column) := by
  have hlv : ∀ lv, some (crosstabLevels n0 n1 m) = some lv → ∀ l ∈ lv, l < n0 + n1 := by
    rintro lv ⟨⟩ l hl
    rcases (mem_crosstabLevels n0 n1 m l).mp hl with h | h
    · exact Nat.lt_add_right n1 h.1
    · exact h.1.2
  have hreq : ∀ l, l < n0 + n1 → r.1[l]? = some none → l ∈ crosstabLevels n0 n1 m := all_only_requested hn hr
  refine ⟨margins_eq_aggregate_of_rows h (n0 + n1) (Nat.lt_of_lt_of_le Nat.zero_lt_two hn) _ hlv rows hlen r hr, ?_, ?_⟩
  · intro l hl hall
    rcases (mem_crosstabLevels n0 n1 m l).mp (hreq l (Nat.lt_add_right n1 hl) hall) with h | h
    · exact h.2
    · exact absurd hl (Nat.not_lt.mpr h.1.1)
  · intro l hl0 hl hall
    rcases (mem_crosstabLevels n0 n1 m l).mp (hreq l hl hall) with h | h
    · exact absurd h.1 (Nat.not_lt.mpr hl0)
    · exact h.2

/-- non-vacuity: a sparse two-level table, margins at both levels -/
example : lastWins (addRowMargin (fun a b : Int => a + b) 0 2 none [([1, 1], 5), ([1, 2], 7), ([2, 1], 1)])
    = [([some 1, some 1], 5), ([some 1, some 2], 7), ([some 2, some 1], 1), ([none, some 1], 6), ([none, some 2], 7),
       ([some 1, none], 12), ([some 2, none], 1), ([none, none], 13)] := by decide +kernel

end GV.C14
