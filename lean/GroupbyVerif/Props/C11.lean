import GroupbyVerif.Model.GroupBy

/-!
# C11 — Result labelling, order and shape are determined by the inputs

`keyLe` is the lexicographic `≤` of the library's lists (`keyLe_iff_le`), so sorting the labels by it is a sort.
The second half transcribes the decision logic for the result's shape and column names.
-/

namespace GV.C11
open GV

theorem keyLe_iff_le (a b : Key) : keyLe a b = true ↔ a ≤ b := by
  induction a generalizing b with
  | nil => simp [keyLe]
  | cons x xs ih =>
    cases b with
    | nil => simp [keyLe]
    | cons y ys =>
      rw [keyLe, List.cons_le_cons_iff, ← ih]
      split
      · simp [*]
      · next hxy =>
        split
        · next hyx => simp [hxy, Nat.ne_of_gt hyx]
        · next hyx => simp [Nat.le_antisymm (Nat.not_lt.mp hyx) (Nat.not_lt.mp hxy)]

theorem keyLe_total (a b : Key) : (keyLe a b || keyLe b a) = true := by
  simpa [keyLe_iff_le] using List.le_total a b

theorem keyLe_trans (a b c : Key) (h1 : keyLe a b = true) (h2 : keyLe b c = true) : keyLe a c = true := by
  rw [keyLe_iff_le] at *
  exact List.le_trans h1 h2

/-- **labels come in ascending (lexicographic) order and nothing is lost or invented by sorting** -/
theorem labels_sorted (ls : List Key) :
    (sortLabels ls).Pairwise (fun a b => keyLe a b = true) ∧ (sortLabels ls).Perm ls := by
  constructor
  · exact List.pairwise_mergeSort (fun a b c => keyLe_trans a b c) (fun a b => keyLe_total a b) ls
  · exact List.mergeSort_perm ls keyLe

/-- with sorting on, the specification lists exactly the observed labels, in ascending order -/
theorem spec_labels_sorted (kn : Kernel) (k : Kind) (keys : List (Option Key)) (vals : List Val) (mask : Mask)
    (r : List (Key × Partial)) (h : specReduce kn k keys vals mask true = some r) :
    (r.map (·.1)).Pairwise (fun a b => keyLe a b = true) := by
  simp only [specReduce] at h
  split at h
  · simp at h
  · simp only [if_true, Option.some.injEq] at h
    subst h
    simp only [List.map_map, Function.comp_def, List.map_id']
    exact (labels_sorted _).1

/-- with sorting off the labels keep the order of first appearance in the input (a sub-list of the
de-duplicated keys) -/
theorem spec_labels_first_appearance (kn : Kernel) (k : Kind) (keys : List (Option Key)) (vals : List Val) (mask : Mask)
    (r : List (Key × Partial)) (h : specReduce kn k keys vals mask false = some r) :
    (r.map (·.1)).Sublist (dedup (keys.filterMap id)) := by
  simp only [specReduce] at h
  split at h
  · simp at h
  · simp only [Bool.false_eq_true, if_false, Option.some.injEq] at h
    subst h
    simp only [List.map_map, Function.comp_def, List.map_id']
    exact List.filter_sublist

/-! ### shape: Series or DataFrame, column naming (decision logic of `_maybe_squeeze_to_1d` / `_col_names_from_value_names`)

A transcription by hand: no generated definition and no driver operation stands behind `shapeOf` / `colNames`; the check
compares the library with the same rule written in Python (`tools/harness/props/c11.py`). -/

inductive ValuesShape where
  | array1d (named : Bool)        -- ndarray / Series / Index / arrow array / polars Series
  | listOfScalars
  | collection (n : Nat)          -- list / tuple / dict of arrays
  | frame (ncols : Nat)           -- DataFrame / 2-D array
deriving DecidableEq, Repr

inductive OutShape where
  | series | dataFrame (ncols : Nat)
deriving DecidableEq, Repr

def nValues : ValuesShape → Nat
  | .array1d _ => 1 | .listOfScalars => 1 | .collection n => n | .frame n => n

/-- `_maybe_squeeze_to_1d`: squeeze iff a single 1-D input (or a list of scalars, i.e. one array) -/
def shapeOf : ValuesShape → OutShape
  | .array1d _ => .series
  | .listOfScalars => .series
  | .collection n => .dataFrame n
  | .frame n => .dataFrame n

theorem series_iff_single_1d (v : ValuesShape) :
    shapeOf v = .series ↔ (∃ b, v = .array1d b) ∨ v = .listOfScalars := by
  cases v <;> simp [shapeOf]

theorem columns_one_per_input (v : ValuesShape) (n : Nat) (h : shapeOf v = .dataFrame n) : n = nValues v := by
  cases v <;> simp [shapeOf, nValues] at h ⊢ <;> omega

/-- column names: the input's name, `_arr_<i>` for unnamed inputs — positions are kept, so columns
come in input order -/
def colNames (names : List (Option String)) : List String :=
  names.zipIdx.map fun p => match p.1 with | some s => s | none => s!"_arr_{p.2}"

theorem colNames_length (names : List (Option String)) : (colNames names).length = names.length := by
  simp [colNames]

/-- **column independence**: every value column is reduced on its own, so column `j` of the result is
the result for input `j` alone -/
theorem column_independent {α β : Type} (reduce : α → β) (vs : List α) (j : Nat) (h : j < vs.length) :
    (vs.map reduce)[j]'(by simpa using h) = reduce vs[j] := by simp

example : keyLe [1, 5] [2, 0] = true ∧ keyLe [1, 5] [1, 2] = false := by decide
example : colNames [some "x", none, some "y"] = ["x", "_arr_1", "y"] := by decide

end GV.C11
