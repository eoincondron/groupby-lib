import GroupbyVerif.Lemmas.RowSel
import GroupbyVerif.Lemmas.Factorize
import GroupbyVerif.Generated.Constants
import GroupbyVerif.LoopBridge.FindNth
import GroupbyVerif.LoopBridge.FirstLast

/-!
# C15 — head/tail/nth select exactly the requested rows of each group

Kernel theorems for `_find_nth` / `_find_first_or_last_n` with a `w`-bit `seen` counter, for
every interleaving of groups and every `n`; the width hypothesis is displayed, and the
obligations `seen_width_*` tie `w` to the dtype the *current source* allocates.  The last section composes them with
the loop bridges into statements about the translated loops.
-/

namespace GV.C15
open GV

/-- the counters are 64-bit in the current source, so the width hypothesis of the theorems
below (`rows < 2^63`) holds for every array NumPy can hold.  For head / tail the bound is on `n`: `flStep` stops
counting at `n`. -/
theorem seen_width_nth : Generated.Constants.seenWidthNth = 64 := by decide
theorem seen_width_first_last : Generated.Constants.seenWidthFirstLast = 64 := by decide
/-- null-key rows are skipped by the scan loops (`if k < 0: continue` is present in the source) -/
theorem guards_present : Generated.Constants.guardFindNth = true ∧ Generated.Constants.guardFirstLast = true := by decide

/-- **nth**: for every group, `_find_nth` returns the n-th row of the group from the start
(`n ≥ 0`) or from the end (`n < 0`), `-1` when the group is too short; the `assert` never fires -/
theorem nth_eq_spec (w : Nat) (hw : 0 < w) (codes : List Int) (n : Int) (g : Int) (hg : 0 ≤ g)
    (hlen : (codes.length : Int) < 2 ^ (w - 1)) :
    (findNth w codes n g).out = specNth codes n g ∧ (findNth w codes n g).failed = false := by
  have hb : ((posOfGroup codes g).length : Int) < 2 ^ (w - 1) :=
    Int.lt_of_le_of_lt (Int.ofNat_le.mpr (posOfGroup_length_le codes g)) hlen
  -- either direction: the scan of the group's positions in scan order, with a non-negative rank
  have key : ∀ (m : Nat) (fwd : Bool), groupFold (nthStep w m) (fun _ => nthInit) (scanRows codes fwd) g
      = ⟨nthSpec m (if fwd then posOfGroup codes g else (posOfGroup codes g).reverse),
          (posOfGroup codes g).length, false⟩ := fun m fwd => by
    rw [groupFold_spec _ _ _ _ hg, scan_positions]
    cases fwd
    · rw [if_neg Bool.false_ne_true, nthRun_eq w hw m _ (by rw [List.length_reverse]; exact hb), List.length_reverse]
    · rw [if_pos rfl, nthRun_eq w hw m _ hb]
  rw [findNth, specNth]
  by_cases hn : 0 ≤ n
  · have h := key n.toNat true
    rw [Int.toNat_of_nonneg hn] at h
    simp only [hn, decide_true, if_true, h, and_self]
  · have hm : 0 ≤ -n - 1 := by omega
    have h := key (-n - 1).toNat false
    rw [Int.toNat_of_nonneg hm] at h
    simp only [hn, decide_false, if_false, Bool.false_eq_true, h, and_self]

/-- **head**: the first `n` rows of every group, in ascending position, `-1`-padded -/
theorem head_eq_spec (w : Nat) (hw : 0 < w) (codes : List Int) (n : Nat) (g : Int) (hg : 0 ≤ g)
    (hn : (n : Int) < 2 ^ (w - 1)) :
    findFirstOrLastN w codes n true g = specHead codes n g := by
  rw [findFirstOrLastN, if_pos rfl, groupFold_spec _ _ _ _ hg, scan_positions, if_pos rfl, flRun_eq w hw n hn]
  rfl

/-- **tail**: the last `n` rows of every group, in ascending position, right-aligned -/
theorem tail_eq_spec (w : Nat) (hw : 0 < w) (codes : List Int) (n : Nat) (g : Int) (hg : 0 ≤ g)
    (hn : (n : Int) < 2 ^ (w - 1)) :
    findFirstOrLastN w codes n false g = specTail codes n g := by
  -- reversing the end-padded reversed `take n` gives the front-padded `drop` of all but the last `n`
  rw [findFirstOrLastN, if_neg Bool.false_ne_true, groupFold_spec _ _ _ _ hg, scan_positions, if_neg Bool.false_ne_true,
    flRun_eq w hw n hn, flClosed, specTail, padTo, List.reverse_append, List.reverse_replicate, ← List.map_reverse,
    List.take_reverse, List.reverse_reverse, List.length_map, List.length_map, List.length_reverse]

/-- a row with a null (negative) key is never selected: selected positions carry code `g ≥ 0` -/
theorem selected_rows_belong_to_group (codes : List Int) (g : Int) (p : Nat) (hp : p ∈ posOfGroup codes g) :
    codes[p]? = some g :=
  (mem_positionsOf codes g p).mp (posOfGroup_eq_positionsOf ▸ hp)

/-- the width bound is necessary (defect `C15-int16-seen`): small-width analogue (width 3, range −4..3):
a group of 10 rows, `n = 1` — `seen` wraps and hits 1 again at row 9 -/
example : (findNth 3 [0,0,0,0,0,0,0,0,0,0] 1 0).out = 9 ∧ (findNth 3 [0,0,0,0,0,0,0,0,0,0] 1 0).failed = true
    ∧ specNth [0,0,0,0,0,0,0,0,0,0] 1 0 = 1 := by decide

/-- non-vacuity: interleaved groups, a null key, negative n -/
example : (findNth 64 [1, -1, 0, 1, 0, 1] (-1) 1).out = 5 ∧ findFirstOrLastN 64 [1, -1, 0, 1, 0, 1] 2 false 1 = [3, 5]
    ∧ findFirstOrLastN 64 [1, -1, 0, 1, 0, 1] 2 true 0 = [2, 4] := by decide

/-! ### the loops of the current source, end to end

`Generated.Loops.find_nth` / `find_first_or_last_n` are regenerated from `groupby_lib/groupby/numba.py` on every run;
`LoopBridge/FindNth.lean` / `FirstLast.lean` prove them equal to `findNth` / `findFirstOrLastN`.  A row that the mask
drops behaves like a null-key row (`effCodes`).  `ng` and `ml` are the lengths of the output and of the mask: they enter
through the index normalisation only, which is the identity at the non-negative indices used, so they are arbitrary. -/

/-- **the translated `_find_nth` returns the n-th row of every group** (from the start for `n ≥ 0`, from the end for
`n < 0`, `-1` if the group is too short), for groups of any size below `2^63` rows, and never trips its `assert` -/
theorem source_nth_eq_spec (k : Kind) (codes : List Int) (msk : List Bool) (masked : Bool) (n : Int) (ng ml : Int)
    (hlen : (codes.length : Int) < 2 ^ 63) (g : Int) (hg : 0 ≤ g) :
    let r := Generated.Loops.find_nth k codes.length (arrOf codes 0) ng n masked ml (arrOf msk true)
    r.1 g = specNth (effCodes masked codes msk) n g ∧ r.2 = false := by
  -- the bridge gives the error flag in one direction (raised: some group's model assertion failed), so it takes the
  -- model fact for every group; `_find_first_or_last_n` has no `assert`, so head / tail compose by `trans`
  apply LoopBridge.find_nth_eq_spec k codes msk masked n ng ml hlen _ g hg
  intro g' hg'
  exact nth_eq_spec 64 (by omega) _ n g' hg' (by simpa using hlen)

/-- **the translated `_find_first_or_last_n(forward=True)` returns the first `n` rows of every group** -/
theorem source_head_eq_spec (k : Kind) (codes : List Int) (msk : List Bool) (masked : Bool) (n : Nat)
    (hn : (n : Int) < 2 ^ 63) (ng ml : Int) (g : Int) (hg : 0 ≤ g) :
    let r := Generated.Loops.find_first_or_last_n k codes.length (arrOf codes 0) ng n masked ml (arrOf msk true) true
    LoopBridge.rowOf r.1 g n = specHead (effCodes masked codes msk) n g ∧ r.2 = false := by
  intro r
  have h := LoopBridge.find_first_or_last_n_eq k codes msk masked n hn ng ml true g hg
  exact ⟨h.1.trans (head_eq_spec 64 (by omega) _ n g hg (by simpa using hn)), h.2⟩

/-- **the translated `_find_first_or_last_n(forward=False)` returns the last `n` rows of every group**, ascending -/
theorem source_tail_eq_spec (k : Kind) (codes : List Int) (msk : List Bool) (masked : Bool) (n : Nat)
    (hn : (n : Int) < 2 ^ 63) (ng ml : Int) (g : Int) (hg : 0 ≤ g) :
    let r := Generated.Loops.find_first_or_last_n k codes.length (arrOf codes 0) ng n masked ml (arrOf msk true) false
    LoopBridge.rowOf r.1 g n = specTail (effCodes masked codes msk) n g ∧ r.2 = false := by
  intro r
  have h := LoopBridge.find_first_or_last_n_eq k codes msk masked n hn ng ml false g hg
  exact ⟨h.1.trans (tail_eq_spec 64 (by omega) _ n g hg (by simpa using hn)), h.2⟩

/-- non-vacuity: nth(-1) and head(2) over two interleaved groups, a null key and a masked row -/
example :
    let r := Generated.Loops.find_nth .f 6 (arrOf [0, 1, -1, 0, 1, 0] 0) 2 (-1) true 6
      (arrOf [true, true, true, true, true, false] true)
    (r.1 0, r.1 1, r.2) = (3, 4, false) := by decide

example :
    let r := Generated.Loops.find_first_or_last_n .f 6 (arrOf [0, 1, -1, 0, 1, 0] 0) 2 2 false 0 (arrOf [] true) false
    (LoopBridge.rowOf r.1 0 2, LoopBridge.rowOf r.1 1 2) = ([3, 5], [1, 4]) := by decide

end GV.C15
