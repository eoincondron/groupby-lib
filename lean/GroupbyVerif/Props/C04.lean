import GroupbyVerif.Lemmas.Merge
import GroupbyVerif.Lemmas.Reducers
import GroupbyVerif.Lemmas.Dispatch
import GroupbyVerif.Lemmas.RingMax
import GroupbyVerif.Model.GenTable
import GroupbyVerif.Bridge
import GroupbyVerif.Generated.Constants
import GroupbyVerif.LoopBridge.Reduce

/-!
# C04 — Block-wise reduction equals single-pass reduction (kernel contract)

Property theorems only (what they rest on is in `Lemmas/`): first about the model in `Model/Kernels.lean`, then about
the translated loops `group_by_reduce` / `reduce_array_pair` with the translated reducers.  The dispatch (`blocksOf`) is
hand-written and tied to the compiled code by the correspondence run (tools/harness).
-/

namespace GV.C04
open GV

/-- the reducers the driver executes (regenerated from the source) are the modelled ones -/
theorem generated_eq_model : generatedReducers = modelReducers := by
  unfold generatedReducers modelReducers
  rw [Bridge.sum, Bridge.nansum, Bridge.nansum_squares, Bridge.max, Bridge.nanmax, Bridge.min,
    Bridge.nanmin, Bridge.nancount, Bridge.count, Bridge.first, Bridge.last]
  -- after the rewrite the two tables are the same `match`, compiled twice
  rfl

/-- **single pass = per-group definition**, for every kernel, dtype class, list of rows
(any interleaving of groups, any placement of nulls and negative codes) and every group -/
theorem kernel_eq_def (kn : Kernel) (k : Kind) (rows : List Row) (g : Int) (hg : 0 ≤ g) :
    groupByReduce (kn.red modelReducers k) (kn.init k) rows g = specKernel kn k (valsOf rows g) := by
  rw [groupByReduce_at _ _ _ _ hg, runRed_eq_spec]

/-- all cells of all blocks are well-formed for the dtype class -/
def BlocksWF (k : Kind) (blocks : List (List Row)) : Prop := ∀ b ∈ blocks, ∀ r ∈ b, WF k r.2

/-- the merge law every kernel satisfies, as a `MergeOK` instance (the block theorems use it in the form
`runRed_append`) -/
theorem kernel_mergeOK (kn : Kernel) (k : Kind) (hk : k.Supported) :
    ∃ Good, MergeOK (pstep (kn.red modelReducers k)) (mergePair (kn.mergeRed modelReducers k))
      (kn.init k, 0) Good (WF k) :=
  ⟨_, MergeOK.of_append (runRed_append kn k hk) (fun s => mergePair_zero _ s _)⟩

/-- **block-wise = single pass**: for every kernel and supported dtype class, every list of
consecutive blocks (any number, any boundaries, blocks may be empty, a group may be absent
from or all-null in any block): merging the per-block partial results gives, at every group,
exactly the single-pass result over the concatenated rows -/
theorem blockwise_eq_single_pass (kn : Kernel) (k : Kind) (hk : k.Supported)
    (b0 : List Row) (bs : List (List Row)) (hwf : BlocksWF k (b0 :: bs)) (g : Int) (hg : 0 ≤ g) :
    ∃ p, combine (kn.mergeRed modelReducers k)
        ((b0 :: bs).map (groupByReduce (kn.red modelReducers k) (kn.init k))) = some p ∧
      p g = groupByReduce (kn.red modelReducers k) (kn.init k) (b0 :: bs).flatten g := by
  refine ⟨_, rfl, ?_⟩
  rw [foldl_mergeArr_apply, List.map_map]
  exact groupByReduce_blocks kn k hk g hg b0 bs (hwf b0 List.mem_cons_self) fun b hb => hwf b (List.mem_cons_of_mem _ hb)

/-- block-wise result = per-group definition of the concatenation (corollary) -/
theorem blockwise_eq_def (kn : Kernel) (k : Kind) (hk : k.Supported)
    (b0 : List Row) (bs : List (List Row)) (hwf : BlocksWF k (b0 :: bs)) (g : Int) (hg : 0 ≤ g) :
    ∃ p, combine (kn.mergeRed modelReducers k)
        ((b0 :: bs).map (groupByReduce (kn.red modelReducers k) (kn.init k))) = some p ∧
      p g = specKernel kn k (valsOf (b0 :: bs).flatten g) := by
  obtain ⟨p, h1, h2⟩ := blockwise_eq_single_pass kn k hk b0 bs hwf g hg
  exact ⟨p, h1, by rw [h2, kernel_eq_def _ _ _ _ hg]⟩

/-- **end to end at the kernel level**: `group_<kernel>(codes, values, ngroups, mask, n_threads)` with
values contiguous or arrow-chunked returns, for every group, the per-group definition applied to
the rows `rows[mask]` selects — for every mask kind (boolean, slice, positions with repeats /
negative positions), every thread count and every chunking of the values -/
theorem groupKernel_eq_def (kn : Kernel) (k : Kind) (hk : k.Supported) (rows : List Row) (mask : Mask)
    (threads : Nat) (vch : Option (List Nat)) (p : Int → Partial)
    (hwf : ∀ r ∈ rows, WF k r.2) (hm : ∀ m, mask = .bool m → m.length = rows.length)
    (h : groupKernel modelReducers kn k rows mask threads vch = some p) (g : Int) (hg : 0 ≤ g) :
    ∃ sel, selectRows rows mask = some sel ∧ p g = specKernel kn k (valsOf sel g) := by
  unfold groupKernel at h
  cases hb : blocksOf rows mask threads vch with
  | none => simp [hb] at h
  | some blocks =>
    simp only [hb] at h
    have hsel := blocksOf_flatten rows mask threads vch blocks hm hb
    refine ⟨blocks.flatten, hsel, ?_⟩
    have hmem := selectGen_mem rows mask blocks.flatten hsel
    cases blocks with
    | nil => cases h
    | cons b0 bs =>
      have hwfb : BlocksWF k (b0 :: bs) := by
        intro b hb' r hr
        exact hwf r (hmem r (List.mem_flatten.mpr ⟨b, hb', hr⟩))
      cases bs with
      | nil =>
        simp only [Option.some.injEq] at h
        subst h
        simpa using kernel_eq_def kn k b0 g hg
      | cons b1 bs' =>
        obtain ⟨q, hq1, hq2⟩ := blockwise_eq_def kn k hk b0 (b1 :: bs') hwfb g hg
        simp only at h
        rw [hq1] at h
        simp only [Option.some.injEq] at h
        subst h
        exact hq2

/-- negative codes are ignored: deleting those rows changes no group's result -/
theorem neg_codes_ignored (kn : Kernel) (k : Kind) (rows : List Row) (g : Int) (hg : 0 ≤ g) :
    groupByReduce (kn.red modelReducers k) (kn.init k) rows g
      = groupByReduce (kn.red modelReducers k) (kn.init k) (rows.filter (fun r => 0 ≤ r.1)) g := by
  rw [kernel_eq_def _ _ _ _ hg, kernel_eq_def _ _ _ _ hg, valsOf_filter_nonneg _ _ hg]

/-- rows of other groups never enter a group's result -/
theorem other_groups_inert (kn : Kernel) (k : Kind) (rows rows' : List Row) (g : Int) (hg : 0 ≤ g)
    (h : valsOf rows g = valsOf rows' g) :
    groupByReduce (kn.red modelReducers k) (kn.init k) rows g
      = groupByReduce (kn.red modelReducers k) (kn.init k) rows' g := by
  rw [kernel_eq_def _ _ _ _ hg, kernel_eq_def _ _ _ _ hg, h]

/-! ### the definitions are the textbook ones -/

/-- `max` of a group is an element of its non-null values that bounds them all -/
theorem specMax_char (init : Val) (x : Int) (xs : List Int) :
    ∃ m, accOf vmaxC id init ((x :: xs).map Val.num) = .num m ∧ m ∈ x :: xs ∧ ∀ y ∈ x :: xs, y ≤ m :=
  foldl_ext_char true vmaxC vmaxC_num xs x

/-- `min` of a group is an element of its non-null values that bounds them all from below -/
theorem specMin_char (init : Val) (x : Int) (xs : List Int) :
    ∃ m, accOf vminC id init ((x :: xs).map Val.num) = .num m ∧ m ∈ x :: xs ∧ ∀ y ∈ x :: xs, m ≤ y :=
  foldl_ext_char false vminC vminC_num xs x

theorem specSum_char (xs : List Int) : sumVals (xs.map Val.num) = .num xs.sum := by
  suffices H : ∀ (a : Int), (xs.map Val.num).foldl Val.add (.num a) = .num (a + xs.sum) by
    simpa [sumVals] using H 0
  induction xs with
  | nil => intro a; simp
  | cons z zs ih => intro a; simp [Val.add, ih, Int.add_assoc]

/-! ### regression witnesses: the merge of the pinned tree (count fixed to 1) was not a monoid -/

/-- a group absent from the first block lost its maximum (float kind) -/
example : mergePairPinned (Scalar.nanmax .f) (.nan, 0) (.num 3, 1) = (.nan, 1) := by decide
example : mergePair (Scalar.nanmax .f) (.nan, 0) (.num 3, 1) = (.num 3, 1) := by decide
/-- a group absent from the second block took the fill value 255 as data (uint8 kind) -/
example : mergePairPinned (Scalar.nanmax (.u 8)) (.num 1, 1) (.num 255, 0) = (.num 255, 1) := by decide
example : mergePair (Scalar.nanmax (.u 8)) (.num 1, 1) (.num 255, 0) = (.num 1, 1) := by decide

/-! ### non-vacuity: the hypotheses are met by a concrete non-trivial input
(two blocks, group 1 absent from the first block, a null value, a negative code) -/

example : BlocksWF .f [[(0, .num 1), (-1, .num 9), (0, .nan)], [(1, .num 4), (0, .num 2)]] ∧ Kind.f.Supported := by
  constructor
  · intro b _ r _; trivial
  · exact Or.inl rfl

/-- the accumulation loop of the current source has the shape the model `groupFold` stands for (facts extracted
from the AST of `_group_by_reduce` on every run): the reducer reads and writes the row's own group slot
(`target[key], count[key] = reduce_func(target[key], values[i], count[key])` with `key = group_key[i]`), rows
are visited in array order or in the order of the indexer, negative keys are skipped, counts start at zero -/
theorem source_loop_shape :
    Generated.Constants.reduceUpdatesOwnSlot = true ∧ Generated.Constants.reduceKeyFromRow = true ∧
    Generated.Constants.reduceRowsInOrder = true ∧ Generated.Constants.reduceCountStartsAtZero = true ∧
    Generated.Constants.guardReduce = true := by decide

/-! ### the loops of the current source, end to end

`Generated.Loops.group_by_reduce` / `reduce_array_pair` are regenerated from `groupby_lib/groupby/numba.py` on every
run (tools/translate_loops.py); `LoopBridge/Reduce.lean` proves them equal to `groupByReduce` / `mergePair`.  Composed
with the reducers regenerated from `ScalarFuncs` and with `kernel_eq_def`, the statements below are about the source
text of the run: no hand-written model stands between it and the per-group definition.

`group_by_reduce` takes, after the two arrays with their lengths: the target's length and the target, the reducer,
whether an indexer is given and the indexer, `check_in_bounds`.  `reduce_array_pair` takes `x`, `y` with their lengths,
the reducer, then for `counts` and for `y_counts`: whether it is given, its length, the array. -/

/-- **the translated `_group_by_reduce`, run with the translated reducer of kernel `kn`, returns the per-group
definition** at every group, for every interleaving of groups and nulls (rows in array order) -/
theorem source_kernel_eq_def (kn : Kernel) (k : Kind) (codes : List Int) (vals : List Val)
    (hlen : codes.length = vals.length) (tlen : Int) (cib : Bool) (g : Int) (hg : 0 ≤ g) :
    let r := Generated.Loops.group_by_reduce k codes.length (arrOf codes 0) vals.length (arrOf vals .nan) tlen
      (fun _ => kn.init k) (kn.red generatedReducers k) false [] cib
    r.2 = false ∧ (r.1.1 g, r.1.2 g) = specKernel kn k (valsOf (codes.zip vals) g) := by
  intro r
  have h := LoopBridge.group_by_reduce_plain k (kn.red generatedReducers k) (kn.init k) codes vals hlen tlen cib g hg
  refine ⟨h.1, ?_⟩
  rw [h.2, generated_eq_model, kernel_eq_def _ _ _ _ hg]

/-- the same through an indexer (positional mask, or a boolean mask after `nonzero`): the per-group definition on
`rows[indexer]` with array-indexing semantics (repeats, negative positions), and no bounds error is raised -/
theorem source_kernel_indexer_eq_def (kn : Kernel) (k : Kind) (codes : List Int) (vals : List Val)
    (hlen : codes.length = vals.length) (tlen : Int) (ps : List Int) (sel : List Row)
    (hsel : takePositions (codes.zip vals) ps = some sel) (g : Int) (hg : 0 ≤ g) :
    let r := Generated.Loops.group_by_reduce k codes.length (arrOf codes 0) vals.length (arrOf vals .nan) tlen
      (fun _ => kn.init k) (kn.red generatedReducers k) true ps true
    r.2 = false ∧ (r.1.1 g, r.1.2 g) = specKernel kn k (valsOf sel g) := by
  intro r
  have h := LoopBridge.group_by_reduce_indexer k (kn.red generatedReducers k) (kn.init k) codes vals hlen tlen ps sel
    hsel g hg
  refine ⟨h.1, ?_⟩
  rw [h.2, generated_eq_model, kernel_eq_def _ _ _ _ hg]

/-- the translated `reduce_array_pair` is the pairwise merge the block-wise theorems are about -/
theorem source_merge_eq_mergePair (kn : Kernel) (k : Kind) (n : Nat) (x y : Int → Val) (cx cy : Int → Int) (i : Nat)
    (hi : i < n) :
    let r := Generated.Loops.reduce_array_pair k n x n y (kn.mergeRed generatedReducers k) true n cx true n cy
    r.2 = false ∧ (r.1 i, cx i + cy i) = mergePair (kn.mergeRed modelReducers k) (x i, cx i) (y i, cy i) := by
  intro r
  have h := LoopBridge.reduce_array_pair_eq k (kn.mergeRed generatedReducers k) n x y cx cy i hi
  rw [generated_eq_model] at h
  exact h

/-- non-vacuity: two interleaved groups, a null key, a NaN -/
example :
    let r := Generated.Loops.group_by_reduce .f 4 (arrOf [1, 0, -1, 1] 0) 4
      (arrOf [.num 3, .nan, .num 9, .num 4] .nan) 3 (fun _ => (Kernel.max).init .f)
      ((Kernel.max).red generatedReducers .f) false [] true
    (r.1.1 1, r.1.2 1, r.1.1 0, r.1.2 0, r.2) = (.num 4, 2, .nan, 0, false) := by decide

end GV.C04
