import GroupbyVerif.Model.Facade
import GroupbyVerif.Generated.Facade

/-!
# C17 — The pandas-style facade agrees with the core engine (and with pandas)

* resolution of `by` / `level`: columns used as keys are never among the value columns, all other columns are,
  in frame order (`key_columns_not_aggregated`, `non_key_columns_kept`, `value_columns_sublist`);
* a selection made with `[]` is exactly what is handed to the engine (`selection_honoured`), and - from the
  source - **every** facade method hands `_values_to_group` (or nothing, for size / cumcount) to the engine
  (`every_method_passes_selected_values`, on the table extracted from `api.py`);
* iteration by position yields every label once with exactly the rows of that group in row order, whatever the
  index labels (`iter_labels_once`, `iter_rows_exact`); looking positions up as labels does not
  (`loc_is_not_iloc`), and the source uses `.iloc` (`source_facts`).
Agreement with the engine is then delegation (same engine method, same values); agreement with pandas is
observed by the correspondence check only.
-/

namespace GV.C17
open GV GV.Facade

theorem resolveItem_keyColumn {f : Frame} {b : ByItem} {k : KeySrc} (h : resolveItem f b = some k) (c : String) :
    keyColumn k = some c ↔ b = .label c ∧ c ∈ f.columns := by
  cases b with
  | array _ => cases h; simp [keyColumn]
  | callable _ => cases h; simp [keyColumn]
  | label nm =>
    -- only a label found among the columns becomes a column key; found among the index names it is a level
    simp only [resolveItem] at h
    split at h
    · next hcol => cases h; simpa [keyColumn] using fun e => e ▸ hcol
    · next hcol =>
      split at h
      · cases h; simpa [keyColumn] using fun e => e ▸ hcol
      · cases h

theorem resolveAll_cons {f : Frame} {b : ByItem} {bs : List ByItem} {ks : List KeySrc}
    (h : resolveAll f (b :: bs) = some ks) :
    ∃ k ks', resolveItem f b = some k ∧ resolveAll f bs = some ks' ∧ ks = k :: ks' := by
  unfold resolveAll at h
  split at h
  · exact ⟨_, _, ‹_›, ‹_›, (Option.some.inj h).symm⟩
  · cases h

theorem resolveAll_keyColumns (f : Frame) (by_ : List ByItem) (ks : List KeySrc) (h : resolveAll f by_ = some ks)
    (c : String) : c ∈ ks.filterMap keyColumn ↔ (ByItem.label c ∈ by_ ∧ c ∈ f.columns) := by
  induction by_ generalizing ks with
  | nil => cases h; simp
  | cons b bs ih =>
    obtain ⟨k, ks', hb, hbs, rfl⟩ := resolveAll_cons h
    have : c ∈ (k :: ks').filterMap keyColumn ↔ keyColumn k = some c ∨ c ∈ ks'.filterMap keyColumn := by
      simp [List.mem_filterMap]
    rw [this, resolveItem_keyColumn hb c, ih ks' hbs, List.mem_cons, or_and_right, @eq_comm _ b]

theorem resolveAll_length (f : Frame) (by_ : List ByItem) (ks : List KeySrc) (h : resolveAll f by_ = some ks) :
    ks.length = by_.length := by
  induction by_ generalizing ks with
  | nil => cases h; rfl
  | cons b bs ih =>
    obtain ⟨k, ks', _, hbs, rfl⟩ := resolveAll_cons h
    simp [ih ks' hbs]

theorem resolve_eq_some {f : Frame} {by_ : List ByItem} {levels : List Nat} {r : Resolved}
    (h : resolve f by_ levels = some r) : ∃ ks, resolveAll f by_ = some ks ∧
      r = ⟨ks ++ levels.map KeySrc.level, f.columns.filter fun c => decide (c ∉ ks.filterMap keyColumn)⟩ := by
  unfold resolve at h
  split at h
  · cases h
  · exact ⟨_, ‹_›, (Option.some.inj h).symm⟩

theorem mem_valueColumns {f : Frame} {by_ : List ByItem} {levels : List Nat} {r : Resolved}
    (h : resolve f by_ levels = some r) (c : String) :
    c ∈ r.valueColumns ↔ c ∈ f.columns ∧ ByItem.label c ∉ by_ := by
  obtain ⟨ks, hk, rfl⟩ := resolve_eq_some h
  simp only [List.mem_filter, decide_eq_true_eq, resolveAll_keyColumns f by_ ks hk c]
  exact ⟨fun ⟨hc, hn⟩ => ⟨hc, fun hb => hn ⟨hb, hc⟩⟩, fun ⟨hc, hn⟩ => ⟨hc, fun hb => hn hb.1⟩⟩

/-- a column used as a key is not aggregated -/
theorem key_columns_not_aggregated (f : Frame) (by_ : List ByItem) (levels : List Nat) (r : Resolved)
    (h : resolve f by_ levels = some r) (c : String) (hby : ByItem.label c ∈ by_) (hc : c ∈ f.columns) :
    c ∉ r.valueColumns :=
  fun hm => ((mem_valueColumns h c).mp hm).2 hby

/-- every other column is a value column -/
theorem non_key_columns_kept (f : Frame) (by_ : List ByItem) (levels : List Nat) (r : Resolved)
    (h : resolve f by_ levels = some r) (c : String) (hc : c ∈ f.columns) (hby : ByItem.label c ∉ by_) :
    c ∈ r.valueColumns :=
  (mem_valueColumns h c).mpr ⟨hc, hby⟩

/-- the value columns are the frame's columns, in frame order, minus the key columns -/
theorem value_columns_sublist (f : Frame) (by_ : List ByItem) (levels : List Nat) (r : Resolved)
    (h : resolve f by_ levels = some r) : r.valueColumns.Sublist f.columns := by
  obtain ⟨ks, _, rfl⟩ := resolve_eq_some h
  exact List.filter_sublist

/-- one key per `by` item, in order, then the levels -/
theorem keys_length (f : Frame) (by_ : List ByItem) (levels : List Nat) (r : Resolved)
    (h : resolve f by_ levels = some r) : r.keys.length = by_.length + levels.length := by
  obtain ⟨ks, hk, rfl⟩ := resolve_eq_some h
  simp [resolveAll_length f by_ ks hk]

/-- a selection is what the engine gets -/
theorem selection_honoured (r : Resolved) (nm : String) (nms : List String) :
    selectedColumns r (.one nm) = [nm] ∧ selectedColumns r (.list nms) = nms ∧ selectedColumns r .all = r.valueColumns :=
  ⟨rfl, rfl, rfl⟩

example : resolve ⟨["k", "a", "b"], ["lvl"]⟩ [.label "k", .label "lvl", .array 0] [0]
    = some ⟨[.column "k", .level 0, .array 0, .level 0], ["a", "b"]⟩ := by decide +kernel

/-! ## from the source -/

/-- every facade method hands the selected value columns (`_values_to_group`) to the engine - or no values
at all (size, cumcount: numbering rows never looks at values) -/
theorem every_method_passes_selected_values :
    Generated.Facade.delegation.all (fun (m, _, src) => src == "values" || ((m == "size" || m == "cumcount") && src == "none")) = true
    ∧ Generated.Facade.rollingSource = "values" := by decide

/-- every aggregation / cumulative method is a thin delegation to the engine method of the same name (`agg` is the
one dispatcher: the engine's `agg` for a function name, its `apply` for a callable) -/
theorem delegation_same_name :
    Generated.Facade.delegation.all (fun (m, e, _) => m == e || m == "agg") = true := by decide

/-- the syntactic facts of `groupby/api.py` the model rests on (`tools/translate.py: facade_facts`): `__iter__` indexes
`self._obj` with `.iloc` (`iterGroups` takes rows by position); `_from_by_keys` records a `by` label found among the
columns as a key column and builds `value_columns` from the columns not recorded (the filter in `resolve`);
`__getitem__` groups the one column it is given, or passes a list on as `value_columns` (`selectedColumns`);
`_values_to_group` is made of the `value_columns` -/
theorem source_facts :
    Generated.Facade.iterIndexer = "iloc" ∧ Generated.Facade.valueColumnsExcludeKeys = true ∧ Generated.Facade.keyColumnsRecorded = true ∧
    Generated.Facade.selectionOneIsColumn = true ∧ Generated.Facade.selectionListIsValueColumns = true ∧
    Generated.Facade.valuesToGroupIsValueColumns = true := by decide

example : Generated.Facade.delegation.length ≥ 20 := by decide

theorem iter_labels_once {α : Type} (codes : List Int) (ngroups : Nat) (rows : List α) :
    (iterGroups codes ngroups rows).map (·.1) = List.range ngroups := by
  simp [iterGroups, Function.comp_def]

/-- `pre`: the rows before the ones the codes `cs` belong to, so that positions start at `pre.length` -/
theorem rows_at_code {α : Type} (g : Int) (cs : List Int) (rs pre : List α) (h : rs.length = cs.length) :
    ((cs.zipIdx pre.length).filter (fun p => p.1 = g)).filterMap (fun p => (pre ++ rs)[p.2]?) =
      ((rs.zip cs).filter (fun p => p.2 = g)).map (·.1) := by
  induction cs generalizing rs pre with
  | nil => simp
  | cons c cs ih =>
    cases rs with
    | nil => simp at h
    | cons r rs =>
      have ih := ih rs (pre ++ [r]) (by simpa using h)
      rw [List.length_append, List.length_singleton, List.append_assoc, List.singleton_append] at ih
      by_cases hc : c = g <;> simp [List.zipIdx_cons, hc, ih]

/-- the rows yielded for label `g` are exactly the rows whose code is `g`, in row order (no matter what the
index labels are: they do not occur) -/
theorem iter_rows_exact {α : Type} (codes : List Int) (ngroups : Nat) (rows : List α) (hlen : rows.length = codes.length)
    (g : Nat) (hg : g < ngroups) :
    (iterGroups codes ngroups rows)[g]? =
      some (g, ((rows.zip codes).filter (fun p => p.2 = Int.ofNat g)).map (·.1)) := by
  unfold iterGroups
  rw [List.getElem?_map, List.getElem?_range hg]
  exact congrArg (fun l => some (g, l)) (rows_at_code (Int.ofNat g) codes rows [] hlen)

/-- looking group positions up as index labels is a different function: with index labels [1, 0] the rows of
the group at position 0 are found at position 1 -/
theorem loc_is_not_iloc : locLookup [1, 0] ["row0", "row1"] [0] = ["row1"] ∧ (([0] : List Nat).filterMap (["row0", "row1"][·]?)) = ["row0"] := by
  decide

end GV.C17
