import GroupbyVerif.Props.C03
import GroupbyVerif.Props.C04
import GroupbyVerif.Props.C08
import GroupbyVerif.Generated.Dtypes

/-!
# C12 — Same data in any supported container or dtype gives the same answer

* `same_answer_any_layout`: the kernel result does not depend on how the values are laid out
  (contiguous / arrow chunks with arbitrary boundaries) nor on the number of threads - `C03.kernel_strategy_independent`
  under the name of this property.
* `selection_is_element` / `reduction_selection_is_element` / `cum_selection_is_element`: min, max, first,
  last (and cummin / cummax) return the dtype's null or **an element of the group's input values** - no
  arithmetic touches them, which is why integer widths, booleans and the int64 views of temporal values survive.
* `wsum_eq` / `int_sum_exact`: a sum accumulated with wrapping 64-bit additions (what the compiled loops
  do) equals the exact integer sum whenever that sum fits in 64 bits - whatever the input width, the order of
  the rows and the intermediate overflows; merging thread partials keeps that (`wsum_append`).
* `accumulator_table`: the accumulator dtype table extracted from `_build_target_for_groupby`: selection
  operations accumulate in the input dtype starting from its null; integer / boolean sums accumulate in
  (u)int64; counts are collected separately.
-/

namespace GV.C12
open GV GV.C04 GV.C08

theorem same_answer_any_layout (kn : Kernel) (k : Kind) (hk : k.Supported) (rows : List Row) (mask : Mask)
    (t1 t2 : Nat) (l1 l2 : Option (List Nat)) (p1 p2 : Int → Partial)
    (hwf : ∀ r ∈ rows, WF k r.2) (hm : ∀ m, mask = .bool m → m.length = rows.length)
    (h1 : groupKernel modelReducers kn k rows mask t1 l1 = some p1)
    (h2 : groupKernel modelReducers kn k rows mask t2 l2 = some p2) (g : Int) (hg : 0 ≤ g) :
    p1 g = p2 g :=
  C03.kernel_strategy_independent kn k hk rows mask t1 t2 l1 l2 p1 p2 hwf hm h1 h2 g hg

/-! ## selection-type results are elements of the input -/

theorem vmaxC_sel (a b : Val) : vmaxC a b = a ∨ vmaxC a b = b := by
  unfold vmaxC; split <;> simp

theorem vminC_sel (a b : Val) : vminC a b = a ∨ vminC a b = b := by
  unfold vminC; split <;> simp

theorem accOf_sel_mem (comb : Val → Val → Val) (hsel : ∀ a b, comb a b = a ∨ comb a b = b) (init : Val) (xs : List Val) :
    accOf comb id init xs = init ∨ accOf comb id init xs ∈ xs := by
  cases xs with
  | nil => exact .inl rfl
  | cons x xs => exact .inr (foldl_sel_mem comb hsel xs x)

-- `GV.C12.Kernel.isSelection`, not a function in the namespace of `GV.Kernel`: `kn.isSelection` does not resolve
def Kernel.isSelection : Kernel → Bool
  | .min | .max | .first | .last => true
  | _ => false

/-- min / max / first / last of a group's values: the dtype's null, or one of the values -/
theorem selection_is_element (kn : Kernel) (hs : Kernel.isSelection kn = true) (k : Kind) (vs : List Val) :
    (specKernel kn k vs).1 = nullValue k ∨ (specKernel kn k vs).1 ∈ vs := by
  have hsub : ∀ v, v ∈ nonNull k vs → v ∈ vs := fun v hv => (List.mem_filter.mp hv).1
  -- the goals left: min, max, first, last
  cases kn <;> simp [Kernel.isSelection] at hs <;> simp only [specKernel]
  · exact (accOf_sel_mem vminC vminC_sel (nullValue k) (nonNull k vs)).imp id (hsub _)
  · exact (accOf_sel_mem vmaxC vmaxC_sel (nullValue k) (nonNull k vs)).imp id (hsub _)
  · cases hn : nonNull k vs with
    | nil => left; simp
    | cons x xs => right; simp; exact hsub x (by rw [hn]; exact List.mem_cons_self ..)
  · cases hl : (nonNull k vs).getLast? with
    | none => left; simp
    | some x => right; simp; exact hsub x (List.mem_of_getLast? hl)

/-- **end to end**: `group_min / max / first / last` (any mask kind, thread count, value layout) return for
every group the dtype's null or the value of one of the selected rows of that group -/
theorem reduction_selection_is_element (kn : Kernel) (hs : Kernel.isSelection kn = true) (k : Kind) (hk : k.Supported)
    (rows : List Row) (mask : Mask) (threads : Nat) (vch : Option (List Nat)) (p : Int → Partial)
    (hwf : ∀ r ∈ rows, WF k r.2) (hm : ∀ m, mask = .bool m → m.length = rows.length)
    (h : groupKernel modelReducers kn k rows mask threads vch = some p) (g : Int) (hg : 0 ≤ g) :
    (p g).1 = nullValue k ∨ ∃ sel, selectRows rows mask = some sel ∧ ∃ r ∈ sel, r.1 = g ∧ r.2 = (p g).1 := by
  obtain ⟨sel, hsel, e⟩ := groupKernel_eq_def kn k hk rows mask threads vch p hwf hm h g hg
  rw [e]
  exact (selection_is_element kn hs k (valsOf sel g)).imp id fun h1 => ⟨sel, hsel, valsOf_mem h1⟩

/-- cummin / cummax: every output is the null or a selected value of the same group at or before that row -/
theorem cum_selection_is_element (op : CumOp) (hop : op = .min ∨ op = .max) (k : Kind) (rows : List CRow) (i : Nat) (v : Val)
    (h : (cumulativeReduce (op.red modelReducers k true) (op.init k) rows)[i]? = some (some v)) :
    v = nullValue k ∨ ∃ r ∈ rows.take (i + 1), r.sel = true ∧ r.val = v := by
  by_cases hi : i < rows.length
  · rw [cum_cell op k rows i _ (List.getElem?_eq_getElem hi), Option.some.injEq] at h
    split at h
    · cases h
    · simp only [Option.some.injEq] at h
      have hs : Kernel.isSelection (op.kernel true) = true := by rcases hop with rfl | rfl <;> rfl
      rcases selection_is_element (op.kernel true) hs k (selVals (rows.take (i + 1)) rows[i].code) with h1 | h1
      · left; rw [← h]; exact h1
      · right
        rw [h] at h1
        unfold selVals at h1
        obtain ⟨r, hr, rfl⟩ := List.mem_map.mp h1
        obtain ⟨hr1, hr2⟩ := List.mem_filter.mp hr
        exact ⟨r, hr1, by simpa using (of_decide_eq_true hr2).2, rfl⟩
  · rw [List.getElem?_eq_none_iff.mpr (by rw [cumulativeReduce, LoopBridge.cumGo_length]; omega)] at h
    cases h

/-! ## integer sums: 64-bit wrapping accumulation is exact whenever the sum fits

`wrap64` / `wrapU64` are `wrapS 64` / `wrapU 64` of `Model/Imp.lean` with the powers written out.  `wsum` is written by
hand after the compiled loops, with nothing generated behind it: the check compares the library's integer sums with
the exact Python sums (`tools/harness/props/c12.py`). -/

def wrap64 (x : Int) : Int := (x + 9223372036854775808) % 18446744073709551616 - 9223372036854775808
def wrapU64 (x : Int) : Int := x % 18446744073709551616

/-- the compiled accumulation: every addition wraps -/
def wsum (xs : List Int) : Int := xs.foldl (fun a x => wrap64 (a + x)) 0
def wsumU (xs : List Int) : Int := xs.foldl (fun a x => wrapU64 (a + x)) 0

/-- a later wrap absorbs an earlier one: the offsets cancel and the outer `%` swallows the inner -/
theorem wrap64_add_wrap (a b : Int) : wrap64 (wrap64 a + b) = wrap64 (a + b) := by
  unfold wrap64
  rw [Int.add_right_comm _ b, Int.sub_add_cancel, Int.emod_add_emod, Int.add_right_comm]

theorem wrapU64_add_wrap (a b : Int) : wrapU64 (wrapU64 a + b) = wrapU64 (a + b) := Int.emod_add_emod ..

theorem wrap64_id (x : Int) (h : -9223372036854775808 ≤ x ∧ x < 9223372036854775808) : wrap64 x = x :=
  wrapS_id 64 (by decide) x h.1 h.2

theorem wrapU64_id (x : Int) (h : 0 ≤ x ∧ x < 18446744073709551616) : wrapU64 x = x :=
  wrapU_id 64 x h.1 h.2

/-- `w`: `wrap64`, `wrapU64` -/
theorem foldl_wrap (w : Int → Int) (hw : ∀ a b, w (w a + b) = w (a + b)) (xs : List Int) (a : Int) :
    xs.foldl (fun a x => w (a + x)) (w a) = w (a + xs.sum) := by
  induction xs generalizing a with
  | nil => simp
  | cons x xs ih => rw [List.foldl_cons, hw, ih, List.sum_cons, Int.add_assoc]

theorem wsum_eq (xs : List Int) : wsum xs = wrap64 xs.sum := by
  simpa [wsum, wrap64_id 0 (by decide)] using foldl_wrap wrap64 wrap64_add_wrap xs 0

theorem wsumU_eq (xs : List Int) : wsumU xs = wrapU64 xs.sum := by
  simpa [wsumU, wrapU64_id 0 (by decide)] using foldl_wrap wrapU64 wrapU64_add_wrap xs 0

/-- **integer sums do not wrap within the 64-bit range**: whatever the width of the inputs, their order and the
intermediate overflows, the int64 accumulator ends on the exact sum if that sum is representable -/
theorem int_sum_exact (xs : List Int) (h : -9223372036854775808 ≤ xs.sum ∧ xs.sum < 9223372036854775808) :
    wsum xs = xs.sum := by rw [wsum_eq, wrap64_id _ h]

theorem uint_sum_exact (xs : List Int) (h : 0 ≤ xs.sum ∧ xs.sum < 18446744073709551616) :
    wsumU xs = xs.sum := by rw [wsumU_eq, wrapU64_id _ h]

/-- merging two thread partials with one more wrapping addition is the wrapping sum of all rows -/
theorem wsum_append (xs ys : List Int) : wrap64 (wsum xs + wsum ys) = wsum (xs ++ ys) := by
  rw [wsum_eq, wsum_eq, wsum_eq, List.sum_append, wrap64_add_wrap, Int.add_comm, wrap64_add_wrap, Int.add_comm]

/-- non-vacuous: an intermediate overflow that comes back -/
example : wsum [9223372036854775807, 5, -10] = 9223372036854775802 := by decide

/-! ## accumulator dtypes, from the source -/

def selectionOps : List String := ["min", "max", "first", "last", "nanmin", "nanmax", "nanfirst", "nanlast"]
def sumOps : List String := ["sum", "nansum"]
def intDtypes : List String := ["int64", "int32", "int16", "int8", "bool"]
def uintDtypes : List String := ["uint64", "uint32", "uint16", "uint8"]

/-- `_build_target_for_groupby` on its whole domain: selection operations accumulate in the input's own dtype,
starting from that dtype's null; integer and boolean sums accumulate in int64, unsigned ones in uint64, floats
in their own precision, all starting from 0; counts do not use the value accumulator -/
theorem accumulator_table :
    Generated.Dtypes.targetTable.all (fun (dt, op, target, init) =>
      (!selectionOps.contains op || (target == dt && init == "null")) &&
      (!(sumOps.contains op && intDtypes.contains dt) || (target == "int64" && init == "0")) &&
      (!(sumOps.contains op && uintDtypes.contains dt) || (target == "uint64" && init == "0")) &&
      (!(sumOps.contains op && (dt == "float64" || dt == "float32")) || (target == dt && init == "0")) &&
      (!(op == "count" || op == "nancount") || target == "bool")) = true := by decide +kernel

-- 11 dtypes × 14 operations
example : Generated.Dtypes.targetTable.length = 154 := by decide +kernel

end GV.C12
