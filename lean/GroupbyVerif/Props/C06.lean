import GroupbyVerif.Generated.Constants
import GroupbyVerif.Props.C05
import GroupbyVerif.Props.C02
import GroupbyVerif.Props.C10
import GroupbyVerif.LoopBridge.Nearby
import GroupbyVerif.Lemmas.Nearby

/-!
# C06 — Rows with a null key never influence any group

For the row-aligned operations the statements are those of C05 with "null-key row" in place of "masked row"; a
null-key row itself gets a constant marker.
-/

namespace GV.C06
open GV

/-- **reductions**: deleting the rows with a null (negative) code changes no group's result -/
theorem null_rows_inert_reduction (kn : Kernel) (k : Kind) (rows : List Row) (g : Int) (hg : 0 ≤ g) :
    groupByReduce (kn.red modelReducers k) (kn.init k) rows g
      = groupByReduce (kn.red modelReducers k) (kn.init k) (rows.filter (fun r => 0 ≤ r.1)) g :=
  C04.neg_codes_ignored kn k rows g hg

/-- a row gets the null code exactly when its key — or, for several keys, ANY component — is null -/
theorem null_code_iff_any_component_null (cs : List Int) (shape : List Nat) (hl : cs.length = shape.length) :
    weightCodeSum cs shape = none ↔ ∃ c ∈ cs, c < 0 :=
  C02.weightCodeSum_none_iff cs shape hl

/-! ### row-aligned operations -/

def dropNull (rows : List CRow) : List CRow := rows.filter (fun r => decide (0 ≤ r.code))

def rankNonNull (rows : List CRow) (i : Nat) : Nat := (dropNull (rows.take i)).length

theorem dropNull_at_rank (rows : List CRow) (i : Nat) (r : CRow) (hi : rows[i]? = some r) (hc : 0 ≤ r.code) :
    (dropNull rows)[rankNonNull rows i]? = some r ∧
    ∀ g, 0 ≤ g → selVals ((dropNull rows).take (rankNonNull rows i + 1)) g = selVals (rows.take (i + 1)) g := by
  obtain ⟨hf, ht, -⟩ := filter_at_rank (fun r : CRow => decide (0 ≤ r.code)) rows i r hi (decide_eq_true hc)
  refine ⟨hf, fun g hg => ?_⟩
  rw [dropNull, rankNonNull, dropNull, ht]
  exact selVals_filter _ _ g fun x hx _ => decide_eq_true (hx ▸ hg)

/-- **cumulative operations**: deleting the null-key rows leaves every other row's output unchanged -/
theorem cum_null_rows_inert (op : CumOp) (k : Kind) (rows : List CRow) (i : Nat) (r : CRow)
    (hi : rows[i]? = some r) (hc : 0 ≤ r.code) :
    (cumulativeReduce (op.red modelReducers k true) (op.init k) rows)[i]?
      = (cumulativeReduce (op.red modelReducers k true) (op.init k) (dropNull rows))[rankNonNull rows i]? := by
  obtain ⟨hf, hv⟩ := dropNull_at_rank rows i r hi hc
  rw [C08.cum_cell op k rows i r hi, C08.cum_cell op k _ _ r hf, hv r.code hc]

theorem rolling_null_rows_inert (k : Kind) (op : RollOp) (w minp : Nat) (hw : 0 < w) (rows : List CRow) (i : Nat)
    (r : CRow) (hi : rows[i]? = some r) (hg : 0 ≤ r.code) (hs : r.sel = true)
    (hok : C09.RollOK k op minp (selVals (rows.take (i + 1)) r.code)) :
    (rolling k op w minp rows)[i]? = (rolling k op w minp (dropNull rows))[rankNonNull rows i]? := by
  obtain ⟨hf, hv⟩ := dropNull_at_rank rows i r hi hg
  rw [C09.rolling_eq_window k op w minp hw rows i r hi hg hs hok,
    C09.rolling_eq_window k op w minp hw (dropNull rows) (rankNonNull rows i) r hf hg hs (hv r.code hg ▸ hok),
    hv r.code hg]

/-- **rolling sum / mean**: the window of a group is made of that group's selected rows only -/
theorem rolling_sum_null_rows_inert (k : Kind) (w minp : Nat) (hw : 0 < w) (rows : List CRow) (i : Nat) (r : CRow)
    (hi : rows[i]? = some r) (hg : 0 ≤ r.code) (hs : r.sel = true) :
    (rolling k .sum w minp rows)[i]? = (rolling k .sum w minp (dropNull rows))[rankNonNull rows i]? :=
  rolling_null_rows_inert k .sum w minp hw rows i r hi hg hs trivial

/-- **rolling max / min**: likewise -/
theorem rolling_extremum_null_rows_inert (k : Kind) (wantMax : Bool) (w minp : Nat) (hw : 0 < w) (hminp : 0 < minp) (rows : List CRow)
    (hwf : ∀ r ∈ rows, WF k r.val) (i : Nat) (r : CRow)
    (hi : rows[i]? = some r) (hg : 0 ≤ r.code) (hs : r.sel = true) :
    (rolling k (if wantMax then .max else .min) w minp rows)[i]? =
      (rolling k (if wantMax then .max else .min) w minp (dropNull rows))[rankNonNull rows i]? :=
  rolling_null_rows_inert k _ w minp hw rows i r hi hg hs (C09.rollOK_extremum k wantMax minp hminp rows hwf _ _)

/-- **shift / diff** (float view): the row `window` group-rows earlier never is a null-key row -/
theorem rolling_shift_diff_null_rows_inert (op : RollOp) (hop : op = .shift ∨ op = .diff) (w minp : Nat) (hw : 0 < w) (rows : List CRow)
    (i : Nat) (r : CRow) (hi : rows[i]? = some r) (hg : 0 ≤ r.code) (hs : r.sel = true) :
    (rolling .f op w minp rows)[i]? = (rolling .f op w minp (dropNull rows))[rankNonNull rows i]? :=
  rolling_null_rows_inert .f op w minp hw rows i r hi hg hs (by rcases hop with rfl | rfl <;> rfl)

/-- **EMA (plain and time-weighted) and every loop of the `loopGo` shape**: a null-key row gets a constant
marker and the output at any other row is a function of the rows of its own group only — so in
particular it does not depend on any null-key row -/
theorem ema_null_rows_inert (β : Rat) (rows rows' : List (Int × Option Rat)) (i i' : Nat) (r : Int × Option Rat)
    (hi : rows[i]? = some r) (hi' : rows'[i']? = some r) (hg : 0 ≤ r.1)
    (hsame : C10.groupVals (rows.take i) r.1 = C10.groupVals (rows'.take i') r.1) :
    (emaGrouped β rows)[i]? = (emaGrouped β rows')[i']? := by
  rw [C10.grouped_eq_single_group β rows i r hi hg, C10.grouped_eq_single_group β rows' i' r hi' hg, hsame]

theorem ema_null_row_marker (β : Rat) (rows : List (Int × Option Rat)) (i : Nat) (r : Int × Option Rat)
    (hi : rows[i]? = some r) (hg : r.1 < 0) : (emaGrouped β rows)[i]? = some none :=
  loopGo_null _ _ _ rows i r hi hg

/-- every kernel loop skips negative codes in the current source (facts extracted by the translator) -/
theorem all_guards_present :
    Generated.Constants.guardReduce = true ∧ Generated.Constants.guardFindNth = true ∧
    Generated.Constants.guardFirstLast = true ∧ Generated.Constants.guardRollSum = true ∧
    Generated.Constants.guardRollMax = true ∧ Generated.Constants.guardRollShift = true ∧
    Generated.Constants.guardCumulative = true ∧ Generated.Constants.guardEmaGrouped = true ∧
    Generated.Constants.guardEmaGroupedTimed = true := by decide

/-! ### stated about the translated source -/

/-- **reductions (translated source)**: the translated `_group_by_reduce` gives every group the same result on the
rows with the null-key rows deleted -/
theorem source_null_rows_inert_reduction (kn : Kernel) (k : Kind) (n : Nat) (rows : List Row) (g : Int) (hg : 0 ≤ g) :
    let r := C03.srcRun kn k n rows
    let q := C03.srcRun kn k n (rows.filter (fun r => 0 ≤ r.1))
    (r.1 g, r.2 g) = (q.1 g, q.2 g) := by
  intro r q
  show ((C03.srcRun kn k n rows).1 g, (C03.srcRun kn k n rows).2 g)
    = ((C03.srcRun kn k n (rows.filter (fun r => 0 ≤ r.1))).1 g, (C03.srcRun kn k n (rows.filter (fun r => 0 ≤ r.1))).2 g)
  rw [C03.srcRun_eq kn k n rows g hg, C03.srcRun_eq kn k n _ g hg]
  exact null_rows_inert_reduction kn k rows g hg

/-- **cumulative operations (translated source)**: at every row with a non-null key the translated
`_cumulative_reduce` writes what it writes, at the row's rank, on the data with the null-key rows deleted -/
theorem source_cum_null_rows_inert (op : CumOp) (k : Kind) (ng : Int) (rows : List CRow)
    (hn : (rows.length : Int) < 2 ^ 32) (i : Nat) (r : CRow) (hi : rows[i]? = some r) (hc : 0 ≤ r.code) :
    (C05.srcCum op k ng rows).1.1 (i : Int) = (C05.srcCum op k ng (dropNull rows)).1.1 (rankNonNull rows i : Int) := by
  have hlt := (List.getElem?_eq_some_iff.mp hi).1
  have hlt' := (List.getElem?_eq_some_iff.mp (dropNull_at_rank rows i r hi hc).1).1
  have hle : (dropNull rows).length ≤ rows.length := List.length_filter_le _ _
  rw [C05.srcCum_eq op k ng rows hn i hlt, C05.srcCum_eq op k ng (dropNull rows) (by omega) _ hlt', LoopBridge.outAt,
    LoopBridge.outAt, cum_null_rows_inert op k rows i r hi hc]

/-- a null-key row of the translated cumulative loop keeps the target's initial value (it is overwritten with the
null marker afterwards): a constant that depends on no other row -/
theorem source_cum_null_row_marker (op : CumOp) (k : Kind) (ng : Int) (rows : List CRow)
    (hn : (rows.length : Int) < 2 ^ 32) (i : Nat) (r : CRow) (hi : rows[i]? = some r) (hc : r.code < 0) :
    (C05.srcCum op k ng rows).1.1 (i : Int) = op.init k := by
  have hlt := (List.getElem?_eq_some_iff.mp hi).1
  rw [C05.srcCum_eq op k ng rows hn i hlt]
  unfold LoopBridge.outAt cumulativeReduce
  rw [C08.cumGo_null_key _ _ rows i r hi hc]

/-- the wrapper `_apply_cumulative` around the translated loop (facts re-extracted from its AST on every run): the target
has one cell per row and, iff the kernel reports a null key, the rows with a negative code are overwritten with the
null marker of the result dtype (`0` for counts) - the constant `source_cum_null_row_marker` speaks of -/
theorem source_cum_wrapper_shape :
    Generated.Constants.cumTargetOneCellPerRow = true ∧ Generated.Constants.cumNullKeyRowsGetNullMarker = true := by decide

/-- non-vacuity: cumsum, a null-key row between two rows of group 0 -/
example :
    let rows : List CRow := [⟨0, .num 3, true⟩, ⟨-1, .num 50, true⟩, ⟨0, .num 4, true⟩]
    ((C05.srcCum .sum .f 1 rows).1.1 2, (C05.srcCum .sum .f 1 (dropNull rows)).1.1 1, rankNonNull rows 2)
      = (.num 7, .num 7, 1) := by unfold C05.srcCum; decide

/-! ### `group_nearby_members`

After the two arrays with their lengths it takes `max_diff` and `n_groups`. -/

/-- the outputs of the translated `group_nearby_members`, row by row -/
def srcNearby (k : Kind) (d : Val) (n : Int) (rows : List (Int × Val)) : List Int :=
  (List.range rows.length).map fun (j : Nat) =>
    (Generated.Loops.group_nearby_members k (rows.map (·.1)).length (arrOf (rows.map (·.1)) 0) (rows.map (·.2)).length
      (arrOf (rows.map (·.2)) .nan) d n).1 (j : Int)

theorem srcNearby_eq (k : Kind) (d : Val) (n : Int) (rows : List (Int × Val)) (hc : ∀ r ∈ rows, r.1 < n) :
    srcNearby k d n rows = nearby d rows := by
  have h := LoopBridge.group_nearby_members_eq k (rows.map (·.1)) (rows.map (·.2)) d n (by simp)
    (by intro c hc'; simp only [List.mem_map] at hc'; obtain ⟨r, hr, rfl⟩ := hc'; exact hc r hr)
  rw [zip_fst_snd] at h
  rw [srcNearby, list_eq_map_range (nearby d rows) (-1), show (nearby d rows).length = rows.length from nearbyRun_length d rows]
  exact List.map_congr_left fun j hj => h.2 j (by simpa using hj)

/-- **what the translated `group_nearby_members` writes**: a null-key row gets `-1`; a row of group `g` continues the
sub-group of the group's previous row unless `abs(v - v_prev) > max_diff`, in which case - as for the group's first
row - it opens a new sub-group numbered one above every number handed out before -/
theorem source_nearby_spec (k : Kind) (d : Val) (n : Int) (rows : List (Int × Val)) (hc : ∀ r ∈ rows, r.1 < n)
    (i : Nat) (g : Int) (v : Val) (hi : rows[i]? = some (g, v)) :
    let outs := srcNearby k d n rows
    (g < 0 → outs[i]? = some (-1)) ∧
    (0 ≤ g → match lastSame (rows.take i) g with
      | none => outs[i]? = some (maxSoFar (outs.take i) + 1)
      | some (j, vj) =>
        if Val.gt (Val.abs (Val.sub v vj)) d then outs[i]? = some (maxSoFar (outs.take i) + 1)
        else outs[i]? = outs[j]?) := by
  rw [srcNearby_eq k d n rows hc]
  exact nearby_spec d rows i g v hi

/-- **null-key rows never influence a sub-group (translated source)**: deleting them leaves the number of every other
row unchanged (not merely the partition: the counter does not move on a null-key row) -/
theorem source_nearby_null_rows_inert (k : Kind) (d : Val) (n : Int) (rows : List (Int × Val))
    (hc : ∀ r ∈ rows, r.1 < n) :
    srcNearby k d n (rows.filter (fun r => decide (0 ≤ r.1)))
      = ((rows.zip (srcNearby k d n rows)).filter (fun p => decide (0 ≤ p.1.1))).map (·.2) := by
  rw [srcNearby_eq k d n rows hc, srcNearby_eq k d n _ (fun r hr => hc r (List.mem_filter.mp hr).1)]
  exact (nearbyRun_drop_null d rows).2

/-- non-vacuity: two interleaved groups, a null key in between, a jump beyond `max_diff` -/
example :
    srcNearby .f (.num 2) 2 [(0, .num 1), (1, .num 1), (-1, .num 2), (0, .num 2), (1, .num 9), (0, .num 3)]
      = [0, 1, -1, 0, 2, 0] := by unfold srcNearby; decide

/-! ### rolling kernels (translated source): null-key rows are inert -/

-- in `GV.C06`, while `WindowFn` is `GV.C05.WindowFn`: `h.null_rows_inert` does not resolve, the uses write it as a function
theorem WindowFn.null_rows_inert {P : List CRow → Prop} {out : List CRow → Int → Val} {F : List Val → Val}
    (h : C05.WindowFn P out F) (hP : ∀ rows, P rows → P (dropNull rows))
    (rows : List CRow) (i : Nat) (r : CRow) (hp : P rows) (hi : rows[i]? = some r) (hg : 0 ≤ r.code) (hs : r.sel = true) :
    out rows (i : Int) = out (dropNull rows) (rankNonNull rows i : Int) := by
  obtain ⟨hf, hv⟩ := dropNull_at_rank rows i r hi hg
  rw [h rows i r hp hi hg hs, h (dropNull rows) (rankNonNull rows i) r (hP rows hp) hf hg hs, hv r.code hg]

/-- **rolling sum / mean (translated source)**: deleting the null-key rows leaves every other row's cell unchanged -/
theorem source_rolling_sum_null_rows_inert (k : Kind) (divf : Val → Int → Val) (op : RollOp) (hop : op = .sum ∨ op = .mean)
    (w : Nat) (hw : 0 < w) (minp : Option Nat) (ng : Int) (hnv : LoopBridge.NumOrNull k (nullValue k))
    (rows : List CRow) (hwf : ∀ r ∈ rows, LoopBridge.NumOrNull k r.val) (i : Nat) (r : CRow)
    (hi : rows[i]? = some r) (hg : 0 ≤ r.code) (hs : r.sel = true) :
    C05.srcRollSum k divf op w minp ng rows (i : Int)
      = C05.srcRollSum k divf op w minp ng (dropNull rows) (rankNonNull rows i : Int) :=
  WindowFn.null_rows_inert (C05.srcRollSum_window k divf op hop w hw minp ng hnv)
    (fun _ hp r hr => hp r (List.mem_filter.mp hr).1) rows i r hwf hi hg hs

/-- **rolling max / min (translated source)**: the same -/
theorem source_rolling_max_null_rows_inert (k : Kind) (wantMax : Bool) (w : Nat) (hw : 0 < w) (minp : Option Nat)
    (hminp : 0 < minp.getD w) (ng : Int) (rows : List CRow) (hwf : ∀ r ∈ rows, WF k r.val)
    (hnan : ∀ r ∈ rows, r.val = .nan → nullValue k = .nan) (i : Nat) (r : CRow)
    (hi : rows[i]? = some r) (hg : 0 ≤ r.code) (hs : r.sel = true) :
    C05.srcRollMax k wantMax w minp ng rows (i : Int)
      = C05.srcRollMax k wantMax w minp ng (dropNull rows) (rankNonNull rows i : Int) :=
  WindowFn.null_rows_inert (C05.srcRollMax_window k wantMax w hw minp hminp ng)
    (fun _ hp => ⟨fun r hr => hp.1 r (List.mem_filter.mp hr).1, fun r hr => hp.2 r (List.mem_filter.mp hr).1⟩)
    rows i r ⟨hwf, hnan⟩ hi hg hs

/-- non-vacuity: rolling sum over window 2, a null-key row between the rows of group 0 -/
example :
    let rows : List CRow := [⟨0, .num 3, true⟩, ⟨-1, .num 50, true⟩, ⟨0, .num 4, true⟩, ⟨0, .num 5, true⟩]
    (C05.srcRollSum .f (fun a _ => a) .sum 2 none 1 rows 3,
      C05.srcRollSum .f (fun a _ => a) .sum 2 none 1 (dropNull rows) 2, rankNonNull rows 3) = (.num 9, .num 9, 2) := by
  unfold C05.srcRollSum; decide

/-! ### EMA (translated `_ema_grouped`): null-key rows are inert

After the two arrays with their lengths `ema_grouped` takes `alpha` (here `1 - β`), `ngroups` and the mask (here none). -/

/-- the translated `_ema_grouped` on a list of (code, value) rows, no mask -/
def srcEma (k : Kind) (β : Rat) (ng : Int) (rows : List (Int × FVal)) : Int → FVal :=
  (Generated.Loops.ema_grouped k (rows.map (·.1)).length (arrOf (rows.map (·.1)) 0) (rows.map (·.2)).length
    (arrOf (rows.map (·.2)) .nan) (.q (1 - β)) ng false 0 (arrOf [] true)).1

/-- `dropNull` for the (code, value) rows of the EMA kernels -/
def dropNullP {α : Type} (rows : List (Int × α)) : List (Int × α) := rows.filter (fun r => decide (0 ≤ r.1))

def rankNonNullP {α : Type} (rows : List (Int × α)) (i : Nat) : Nat := (dropNullP (rows.take i)).length

theorem emaRows_of_rows (rows : List (Int × FVal)) :
    LoopBridge.emaRows (rows.map (·.1)) (rows.map (·.2)) false [] = rows.map fun r => (r.1, LoopBridge.obsOf r.2 false) := by
  rw [LoopBridge.emaRows, List.length_map]
  apply map_range_of_getElem?
  intro i r hi
  simp only [getD_map_of_getElem? _ rows i r _ hi, Bool.false_and]

theorem dropNullP_map {α β : Type} (f : Int × α → Int × β) (hf : ∀ r, (f r).1 = r.1) (rows : List (Int × α)) :
    dropNullP (rows.map f) = (dropNullP rows).map f := by
  rw [dropNullP, List.filter_map]
  congr 2
  funext r
  exact congrArg (fun c => decide (0 ≤ c)) (hf r)

theorem ema_dropNull (β : Rat) (rows : List (Int × Option Rat)) (i : Nat) (r : Int × Option Rat)
    (hi : rows[i]? = some r) (hc : 0 ≤ r.1) :
    (emaGrouped β rows)[i]? = (emaGrouped β (dropNullP rows))[rankNonNullP rows i]? := by
  obtain ⟨hf, -, htk⟩ := filter_at_rank (fun r : Int × Option Rat => decide (0 ≤ r.1)) rows i r hi (decide_eq_true hc)
  -- same history of the group: the prefix at the rank is the prefix without its null-key rows
  exact ema_null_rows_inert β rows _ i _ r hi hf hc
    (htk ▸ congrArg (List.map fun x : Int × Option Rat => x.2) (filter_code_filter_nonneg _ r.1 hc).symm)

theorem srcEma_eq (k : Kind) (β : Rat) (hβ : 0 ≤ β) (ng : Int) (rows : List (Int × FVal)) (i : Nat)
    (hi : i < rows.length) :
    srcEma k β ng rows (i : Int)
      = LoopBridge.emaCell (emaGrouped β (rows.map fun r => (r.1, LoopBridge.obsOf r.2 false))) i := by
  have h := C10.source_ema_eq_model k β hβ (rows.map (·.1)) (rows.map (·.2)) [] false ng 0
    (by rw [List.length_map, List.length_map]) i (by rwa [List.length_map])
  unfold srcEma
  rw [h, emaRows_of_rows]

/-- **EMA (translated source)**: at every row with a non-null key the translated `_ema_grouped` writes what it writes,
at the row's rank, on the data with the null-key rows deleted; a null-key row gets NaN -/
theorem source_ema_null_rows_inert (k : Kind) (β : Rat) (hβ : 0 ≤ β) (ng : Int) (rows : List (Int × FVal))
    (i : Nat) (r : Int × FVal) (hi : rows[i]? = some r) (hc : 0 ≤ r.1) :
    srcEma k β ng rows (i : Int) = srcEma k β ng (dropNullP rows) (rankNonNullP rows i : Int) := by
  have hlt := (List.getElem?_eq_some_iff.mp hi).1
  have hlt' : rankNonNullP rows i < (dropNullP rows).length :=
    (List.getElem?_eq_some_iff.mp
      (filter_at_rank (fun r : Int × FVal => decide (0 ≤ r.1)) rows i r hi (decide_eq_true hc)).1).1
  -- deleting null-key rows and ranking commute with turning values into observations, which keeps the codes
  have hmap := dropNullP_map (fun r : Int × FVal => (r.1, LoopBridge.obsOf r.2 false)) (fun _ => rfl)
  rw [srcEma_eq k β hβ ng rows i hlt, srcEma_eq k β hβ ng _ _ hlt', LoopBridge.emaCell, LoopBridge.emaCell,
    ema_dropNull β _ i (r.1, LoopBridge.obsOf r.2 false) (by rw [List.getElem?_map, hi]; rfl) hc,
    hmap, rankNonNullP, ← List.map_take, hmap, List.length_map, rankNonNullP]

/-- non-vacuity: `alpha = 1/2`, a null-key row between the two rows of group 0 -/
example :
    let rows : List (Int × FVal) := [(0, .q 1), (-1, .q 50), (0, .q 3)]
    (srcEma .f (1 / 2) 1 rows 2, srcEma .f (1 / 2) 1 (dropNullP rows) 1, rankNonNullP rows 2) = (.q (7 / 3), .q (7 / 3), 1) := by
  unfold srcEma; decide +kernel

end GV.C06
