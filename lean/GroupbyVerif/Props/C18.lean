import GroupbyVerif.Model.Align

/-!
# C18 — Misaligned inputs are rejected, never silently mis-grouped

Each validator of `Model/Align.lean` is turned into the condition it tests; a list's entries are mutually equal iff its
tail repeats its head (`pairwise_eq_cons`).
-/

namespace GV.C18

theorem pairwise_eq_cons (x : Nat) (xs : List Nat) :
    (∀ a ∈ x :: xs, ∀ b ∈ x :: xs, a = b) ↔ ∀ a ∈ xs, a = x := by
  constructor
  · exact fun h a ha => h a (List.mem_cons_of_mem _ ha) x (List.mem_cons_self ..)
  · intro h a ha b hb
    have hx : ∀ c ∈ x :: xs, c = x := fun c hc => (List.mem_cons.mp hc).elim id (h c)
    rw [hx a ha, hx b hb]

theorem pairwise_eq_and_head (x c : Nat) (xs : List Nat) :
    (∀ a ∈ x :: xs, ∀ b ∈ x :: xs, a = b) ∧ x = c ↔ ∀ a ∈ x :: xs, a = c := by
  rw [pairwise_eq_cons, List.forall_mem_cons]
  exact ⟨fun ⟨h, hx⟩ => ⟨hx, fun a ha => (h a ha).trans hx⟩, fun ⟨hx, h⟩ => ⟨fun a ha => (h a ha).trans hx.symm, hx⟩⟩

theorem lengthsOk_iff (lens : List Nat) : lengthsOk lens = true ↔ ∀ a ∈ lens, ∀ b ∈ lens, a = b := by
  cases lens with
  | nil => simp [lengthsOk]
  | cons l ls => simp only [pairwise_eq_cons, lengthsOk, List.all_eq_true, beq_iff_eq]

theorem chainOk_iff (idxs : List Nat) : chainOk idxs = true ↔ ∀ a ∈ idxs, ∀ b ∈ idxs, a = b := by
  induction idxs with
  | nil => simp [chainOk]
  | cons x xs ih =>
    cases xs with
    | nil => simp [chainOk]
    | cons y ys =>
      rw [chainOk, Bool.and_eq_true, ih, beq_iff_eq, pairwise_eq_cons x, and_comm, eq_comm, pairwise_eq_and_head]

/-- **accepted iff aligned**: every array argument has the length of the keys, and every pandas argument
carries the keys' index (when the keys have one; otherwise the pandas arguments agree among themselves) -/
theorem accepts_iff_aligned (nKeys : Nat) (keyIndex : Option Nat) (lens idxs : List Nat) :
    accepts nKeys keyIndex lens idxs = true ↔
      (∀ l ∈ lens, l = nKeys) ∧
      (match keyIndex with
       | some k => ∀ i ∈ idxs, i = k
       | none => ∀ a ∈ idxs, ∀ b ∈ idxs, a = b) := by
  simp only [accepts, Bool.and_eq_true, lengthsOk_iff, chainOk_iff]
  -- each list with its head test: `pairwise_eq_and_head`
  rw [and_right_comm (b := ∀ a ∈ idxs, ∀ b ∈ idxs, a = b), and_assoc]
  refine and_congr ?_ ?_
  · cases lens with
    | nil => simp
    | cons l ls => rw [beq_iff_eq, pairwise_eq_and_head]
  · cases keyIndex with
    | none => simp
    | some k =>
      cases idxs with
      | nil => simp
      | cons i is => rw [beq_iff_eq, eq_comm, pairwise_eq_and_head]

/-- non-vacuity: aligned inputs are accepted, a short mask and a permuted index are rejected -/
example : accepts 5 (some 7) [5, 5] [7, 7] = true ∧ accepts 5 (some 7) [5, 4] [7, 7] = false ∧
    accepts 5 (some 7) [5, 5] [7, 8] = false ∧ accepts 5 none [5] [3] = true := by decide

end GV.C18
