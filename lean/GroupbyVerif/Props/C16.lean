import GroupbyVerif.Props.C02
import GroupbyVerif.Props.C04
import GroupbyVerif.Generated.Constants
import GroupbyVerif.Props.C03
import GroupbyVerif.Model.Composite
import GroupbyVerif.Lemmas.Margins
import Mathlib.Tactic.Ring
import Mathlib.Algebra.Order.Field.Rat
import Mathlib.Data.List.Basic
import Mathlib.Data.List.Nodup

/-!
# C16 — Variance, quantiles and composite statistics match their definitions

Exact rational arithmetic.  The composites of `Model/Composite.lean` are fixed arithmetic on the slots of two or three
kernel calls; C04 turns each slot into the integer sum / count of the group's selected non-null values.  Of median,
quantiles and `apply` only what the user function is handed is stated (`apply_gets_group_rows_in_order`).
The float rounding of the one-pass formula is *not* proved: the check allows `16·n·eps·max|x|² / max(n − ddof, 1)`
(`tools/harness/props/c16.py`) — partial.
-/

namespace GV.C16
open GV

/- `lsum xs = xs.sum` by `rfl`.  It is spelled `foldr (· + ·) 0` because the integer sums over `groupNums` are spelled
that way in the statements below, and `cast_sum` then casts one into the other. -/
def lsum (xs : List Rat) : Rat := xs.foldr (· + ·) 0
def lsumSq (xs : List Rat) : Rat := (xs.map fun x => x * x).foldr (· + ·) 0
def lsumDev (m : Rat) (xs : List Rat) : Rat := (xs.map fun x => (x - m) * (x - m)).foldr (· + ·) 0

theorem sumDev_expand (m : Rat) (xs : List Rat) :
    lsumDev m xs = lsumSq xs - 2 * m * lsum xs + (xs.length : Rat) * m * m := by
  induction xs with
  | nil => simp [lsumDev, lsumSq, lsum]
  | cons x xs ih =>
    simp only [lsumDev, lsumSq, lsum, List.map_cons, List.foldr_cons, List.length_cons] at ih ⊢
    rw [ih]
    push_cast
    ring

/-- **variance identity**: the one-pass formula `(Σx² − (Σx)²/n) / (n − ddof)` the library evaluates equals the
two-pass sample variance `Σ(x − x̄)² / (n − ddof)`, for every list of values and every ddof -/
theorem var_identity (xs : List Rat) (d : Rat) (hn : xs ≠ []) :
    (lsumSq xs - lsum xs * lsum xs / (xs.length : Rat)) / ((xs.length : Rat) - d)
      = lsumDev (lsum xs / (xs.length : Rat)) xs / ((xs.length : Rat) - d) := by
  have hlen : (xs.length : Rat) ≠ 0 := Nat.cast_ne_zero.mpr (mt List.length_eq_zero_iff.mp hn)
  -- with the mean `m = Σx / n`: `n · m = Σx`, the rest is linear in `m`
  have hmean : (xs.length : Rat) * (lsum xs / (xs.length : Rat)) = lsum xs := mul_div_cancel₀ _ hlen
  rw [sumDev_expand, hmean]
  congr 1
  ring

/-- the null rule: with `n ≤ ddof` the denominator is not positive (the library returns null) -/
theorem var_null_rule (n d : Nat) (h : n ≤ d) : ((n : Rat) - (d : Rat)) ≤ 0 := by
  have : (n : Rat) ≤ (d : Rat) := by exact_mod_cast h
  exact sub_nonpos.mpr this

/-- **apply**: the group-sorted indexer hands a user function, for each label, exactly the rows of
that label in ascending (row) order — from the counting-sort view of C02 -/
theorem apply_gets_group_rows_in_order (codes : List Int) (g : Int) :
    (positionsOf codes g).Pairwise (· < ·) ∧ ∀ i, i ∈ positionsOf codes g ↔ codes[i]? = some g :=
  ⟨C02.positionsOf_sorted codes g, fun i => C02.mem_positionsOf codes g i⟩

/-- **density**: the shares `100·s_g / Σs` add up to 100 whenever the total is not zero -/
theorem density_sums_to_100 (ss : List Rat) (ht : lsum ss ≠ 0) :
    lsum (ss.map fun s => 100 * s / lsum ss) = 100 := by
  have key : ∀ (t : Rat) (l : List Rat), lsum (l.map fun s => 100 * s / t) = 100 * lsum l / t := by
    intro t l
    induction l with
    | nil => simp [lsum]
    | cons x xs ih =>
      simp only [lsum, List.map_cons, List.foldr_cons] at ih ⊢
      rw [ih]; ring
  rw [key]
  exact mul_div_cancel_right₀ 100 ht

/-! ## the composite statistics end to end, on top of the kernel theorem of C04

`Model/Composite.lean` is the executable model of `GroupBy.var / ratio / subset_ratio / density` as
combinations of kernel calls (tied to the implementation by the driver op `composite`). -/

/-- the numbers of the non-null values of a group -/
def groupNums (k : Kind) (sel : List Row) (g : Int) : List Int := numsOf (nonNull k (valsOf sel g))

theorem numsOf_map_num (ns : List Int) : numsOf (ns.map Val.num) = ns := by
  simp [numsOf, List.filterMap_map, Function.comp_def, Val.toInt?]

theorem spec_sum_num {k : Kind} {vs : List Val} (hwf : ∀ v ∈ vs, WF k v) :
    (specKernel .sum k vs).1 = .num ((numsOf (nonNull k vs)).foldr (· + ·) 0) := by
  obtain ⟨ns, h, -⟩ := nonNull_nums hwf
  simp only [specKernel, h, numsOf_map_num, C04.specSum_char]
  rfl

theorem spec_sumSq_num {k : Kind} {vs : List Val} (hwf : ∀ v ∈ vs, WF k v) :
    (specKernel .sumSquares k vs).1 = .num (((numsOf (nonNull k vs)).map fun n => n * n).foldr (· + ·) 0) := by
  obtain ⟨ns, h, -⟩ := nonNull_nums hwf
  simp only [specKernel, h, numsOf_map_num, sumSqVals_eq, List.map_map]
  rw [show Val.sq ∘ Val.num = Val.num ∘ fun n => n * n from rfl, ← List.map_map]
  exact C04.specSum_char _

theorem spec_count_num {k : Kind} {vs : List Val} (hwf : ∀ v ∈ vs, WF k v) :
    (specKernel .count k vs).1 = .num ((numsOf (nonNull k vs)).length : Nat) := by
  obtain ⟨ns, h, -⟩ := nonNull_nums hwf
  simp only [specKernel, h, numsOf_map_num, List.length_map]

def toRats (ns : List Int) : List Rat := ns.map fun (n : Int) => (n : Rat)

theorem cast_sum (ns : List Int) : ((ns.foldr (· + ·) 0 : Int) : Rat) = lsum (toRats ns) := by
  induction ns with
  | nil => simp [lsum, toRats]
  | cons n ns ih => simp only [List.foldr_cons, lsum, toRats, List.map_cons] at ih ⊢; rw [← ih]; push_cast; ring

theorem cast_sumSq (ns : List Int) :
    (((ns.map fun n => n * n).foldr (· + ·) 0 : Int) : Rat) = lsumSq (toRats ns) := by
  simp [cast_sum, lsumSq, lsum, toRats, List.map_map, Function.comp_def]

/-- the arithmetic of one group: the one-pass formula on exact sums = the two-pass variance; null when the group has no
more values than `ddof` -/
theorem varFrom_eq (ns : List Int) (ddof : Nat) :
    varFrom (.num (((ns.map fun n => n * n).foldr (· + ·) 0))) (.num (ns.foldr (· + ·) 0)) (.num (ns.length : Nat)) ddof
      = (let xs : List Rat := toRats ns
        if xs.length ≤ ddof then none
        else some (lsumDev (lsum xs / (xs.length : Rat)) xs / ((xs.length : Rat) - (ddof : Rat)))) := by
  simp only [varFrom, toRats, List.length_map, Nat.cast_le]
  split
  · rfl
  · next hle =>
    -- both divisions are by non-zero numbers: the count, and the count minus `ddof`
    have hne : ns ≠ [] := fun hnil => hle (hnil ▸ Nat.zero_le ddof)
    have hz : (ns.length : Rat) ≠ 0 := Nat.cast_ne_zero.mpr (mt List.length_eq_zero_iff.mp hne)
    have hsub : (ns.length : Rat) - (ddof : Rat) ≠ 0 := fun h0 => hle (Nat.cast_injective (sub_eq_zero.mp h0)).le
    have := var_identity (toRats ns) (ddof : Rat) (mt List.map_eq_nil_iff.mp hne)
    rw [toRats, List.length_map, ← toRats] at this
    simp only [fdiv, Int.cast_natCast, if_neg hz, if_neg hsub]
    rw [cast_sumSq, cast_sum]
    exact congrArg some this

theorem kernel_def {kn : Kernel} {k : Kind} (hk : k.Supported) {rows : List Row} {mask : Mask} {threads : Nat}
    {vch : Option (List Nat)} {p : Int → Partial} (hwf : ∀ r ∈ rows, WF k r.2)
    (hm : ∀ m, mask = .bool m → m.length = rows.length)
    (h : groupKernel modelReducers kn k rows mask threads vch = some p) (g : Int) (hg : 0 ≤ g) :
    ∃ sel, selectRows rows mask = some sel ∧ p g = specKernel kn k (valsOf sel g) ∧ ∀ v ∈ valsOf sel g, WF k v := by
  obtain ⟨sel, hsel, e⟩ := C04.groupKernel_eq_def kn k hk rows mask threads vch p hwf hm h g hg
  exact ⟨sel, hsel, e, valsOf_wf (fun r hr => hwf r (selectGen_mem rows mask sel hsel r hr)) g⟩

/-- for several kernel calls under one mask: the caller names the selected rows once -/
theorem kernel_at {kn : Kernel} {k : Kind} (hk : k.Supported) {rows sel : List Row} {mask : Mask} {threads : Nat}
    {vch : Option (List Nat)} {p : Int → Partial} (hwf : ∀ r ∈ rows, WF k r.2)
    (hm : ∀ m, mask = .bool m → m.length = rows.length) (hsel : selectRows rows mask = some sel)
    (h : groupKernel modelReducers kn k rows mask threads vch = some p) (g : Int) (hg : 0 ≤ g) :
    p g = specKernel kn k (valsOf sel g) ∧ ∀ v ∈ valsOf sel g, WF k v := by
  obtain ⟨s, hs, e⟩ := kernel_def hk hwf hm h g hg
  obtain rfl : s = sel := Option.some.inj (hs.symm.trans hsel)
  exact e

/-- **`GroupBy.var` end to end**: for every mask kind, thread count and value chunking, the variance the
library computes for group `g` from its three kernel calls is the two-pass sample variance
`Σ(x − x̄)² / (n − ddof)` of the non-null values of the selected rows of `g`; it is null exactly when
the group has no more such values than `ddof` -/
theorem group_var_eq_two_pass (k : Kind) (hk : k.Supported) (rows : List Row) (mask : Mask) (threads : Nat)
    (vch : Option (List Nat)) (ddof : Nat) (out : Int → Option Rat)
    (hwf : ∀ r ∈ rows, WF k r.2) (hm : ∀ m, mask = .bool m → m.length = rows.length)
    (h : groupVar modelReducers k rows mask threads vch ddof = some out) (g : Int) (hg : 0 ≤ g) :
    ∃ sel, selectRows rows mask = some sel ∧
      out g = (let xs : List Rat := toRats (groupNums k sel g)
        if xs.length ≤ ddof then none
        else some (lsumDev (lsum xs / (xs.length : Rat)) xs / ((xs.length : Rat) - (ddof : Rat)))) := by
  unfold groupVar at h
  split at h
  · rename_i p2 p1 pc h2 h1 hc
    cases h
    obtain ⟨sel, hsel, e1, hw⟩ := kernel_def hk hwf hm h1 g hg
    refine ⟨sel, hsel, ?_⟩
    simp only [e1, (kernel_at hk hwf hm hsel h2 g hg).1, (kernel_at hk hwf hm hsel hc g hg).1, spec_sum_num hw,
      spec_sumSq_num hw, spec_count_num hw, groupNums]
    exact varFrom_eq _ ddof
  · cases h

/-- **`GroupBy.ratio`**: sum of the group's selected non-null numerators over sum of its denominators
(null when the denominator sum is zero) -/
theorem group_ratio_eq (k : Kind) (hk : k.Supported) (codes : List Int) (v1 v2 : List Val) (mask : Mask) (threads : Nat)
    (out : Int → Option Rat) (hwf1 : ∀ v ∈ v1, WF k v) (hwf2 : ∀ v ∈ v2, WF k v)
    (hm1 : ∀ m, mask = .bool m → m.length = (codes.zip v1).length)
    (hm2 : ∀ m, mask = .bool m → m.length = (codes.zip v2).length)
    (h : groupRatio modelReducers k codes v1 v2 mask threads = some out) (g : Int) (hg : 0 ≤ g) :
    ∃ s1 s2, selectRows (codes.zip v1) mask = some s1 ∧ selectRows (codes.zip v2) mask = some s2 ∧
      out g = fdiv (((groupNums k s1 g).foldr (· + ·) 0 : Int) : Rat) (((groupNums k s2 g).foldr (· + ·) 0 : Int) : Rat) := by
  unfold groupRatio at h
  split at h
  · rename_i p1 p2 h1 h2
    cases h
    have hw1 : ∀ r ∈ codes.zip v1, WF k r.2 := fun r hr => hwf1 r.2 (List.of_mem_zip hr).2
    have hw2 : ∀ r ∈ codes.zip v2, WF k r.2 := fun r hr => hwf2 r.2 (List.of_mem_zip hr).2
    obtain ⟨s1, hs1, e1, hwfs1⟩ := kernel_def hk hw1 hm1 h1 g hg
    obtain ⟨s2, hs2, e2, hwfs2⟩ := kernel_def hk hw2 hm2 h2 g hg
    refine ⟨s1, s2, hs1, hs2, ?_⟩
    simp only [e1, e2, spec_sum_num hwfs1, spec_sum_num hwfs2, ratioFrom, groupNums]
  · cases h

/-- **`GroupBy.subset_ratio`**: sum over the rows selected by both masks over the sum over the rows the
global mask selects; null for a group without any row in the subset (its label is missing from the
numerator, and the division aligns on labels) -/
theorem group_subset_ratio_eq (k : Kind) (hk : k.Supported) (rows : List Row) (subset gm : List Bool) (threads : Nat)
    (out : Int → Option Rat) (hwf : ∀ r ∈ rows, WF k r.2) (hl1 : subset.length = rows.length) (hl2 : gm.length = rows.length)
    (h : groupSubsetRatio modelReducers k rows subset (some gm) threads = some out) (g : Int) (hg : 0 ≤ g) :
    out g = if (valsOf (selectBool rows (List.zipWith (· && ·) subset gm)) g).length = 0 then none else
      fdiv (((groupNums k (selectBool rows (List.zipWith (· && ·) subset gm)) g).foldr (· + ·) 0 : Int) : Rat)
        (((groupNums k (selectBool rows gm) g).foldr (· + ·) 0 : Int) : Rat) := by
  unfold groupSubsetRatio at h
  simp only at h
  split at h
  · rename_i p1 pn p2 h1 hn h2
    cases h
    have hlz : (List.zipWith (· && ·) subset gm).length = rows.length := by simp [hl1, hl2]
    have sel_bool : ∀ m : List Bool, m.length = rows.length → selectRows rows (.bool m) = some (selectBool rows m) :=
      fun m hm => by simp [selectRows, selectGen, hm]
    obtain ⟨e1, hwfs1⟩ := kernel_at hk hwf (fun m hm => by cases hm; exact hlz) (sel_bool _ hlz) h1 g hg
    obtain ⟨en, _⟩ := kernel_at hk hwf (fun m hm => by cases hm; exact hlz) (sel_bool _ hlz) hn g hg
    obtain ⟨e2, hwfs2⟩ := kernel_at hk hwf (fun m hm => by cases hm; exact hl2) (sel_bool _ hl2) h2 g hg
    have en' : (pn g).2 = ((valsOf (selectBool rows (List.zipWith (· && ·) subset gm)) g).length : Int) := by
      rw [en]; rfl
    simp only [e1, en', e2, spec_sum_num hwfs1, spec_sum_num hwfs2, ratioFrom, groupNums, Int.natCast_eq_zero]
  · cases h

/-- the contribution of one row to a sum: its number when it is non-null, else nothing (a NaN that is not null does
not occur among well-formed values; counting it 0 spares `groupNums_sum` that hypothesis) -/
def rowNum (k : Kind) (r : Row) : Int :=
  if isNull k r.2 then 0 else match r.2 with
    | .num n => n
    | .nan => 0

theorem groupNums_sum (k : Kind) (sel : List Row) (j : Int) :
    (groupNums k sel j).foldr (· + ·) 0 = aggM (fun a b : Int => a + b) 0 ((sel.filter fun r => r.1 = j).map (rowNum k)) := by
  unfold groupNums valsOf
  generalize sel.filter _ = rs
  induction rs with
  | nil => rfl
  | cons r rs ih =>
    simp only [nonNull, numsOf, List.map_cons, List.filter_cons, aggM_cons, rowNum] at ih ⊢
    cases hn : isNull k r.2
    · cases hv : r.2 with
      | num n => simp [Val.toInt?, ih]
      | nan => simpa [List.filterMap_cons, Val.toInt?] using ih
    · simp [ih]

/-- **`GroupBy.density`** (one key): the share, in percent, of the group's sum in the sum over *all*
selected rows that carry a (non-null) label -/
theorem group_density_eq (k : Kind) (hk : k.Supported) (rows : List Row) (mask : Mask) (ngroups threads : Nat)
    (out : Int → Option Rat) (hwf : ∀ r ∈ rows, WF k r.2) (hm : ∀ m, mask = .bool m → m.length = rows.length)
    (h : groupDensity modelReducers k rows mask ngroups threads = some out) (g : Int) (hg : 0 ≤ g) :
    ∃ sel, selectRows rows mask = some sel ∧
      out g = fdiv (100 * (((groupNums k sel g).foldr (· + ·) 0 : Int) : Rat))
        ((aggM (fun a b : Int => a + b) 0
          ((sel.filter fun r => r.1 ∈ (List.range ngroups).map Int.ofNat).map (rowNum k)) : Int) : Rat) := by
  unfold groupDensity at h
  split at h
  · rename_i p h1
    cases h
    obtain ⟨sel, hsel, _⟩ := kernel_def hk hwf hm h1 g hg
    refine ⟨sel, hsel, ?_⟩
    have hall : ∀ j, 0 ≤ j → (p j).1 = .num ((groupNums k sel j).foldr (· + ·) 0) := fun j hj => by
      obtain ⟨e, hw⟩ := kernel_at hk hwf hm hsel h1 j hj
      rw [e, spec_sum_num hw]; rfl
    have htotal : (((List.range ngroups).map fun j => (p (Int.ofNat j)).1).filterMap Val.toInt?).foldr (· + ·) 0
        = aggM (fun a b : Int => a + b) 0 ((sel.filter fun r => r.1 ∈ (List.range ngroups).map Int.ofNat).map (rowNum k)) := by
      have hnd : ((List.range ngroups).map Int.ofNat).Nodup :=
        List.Nodup.map (fun a b hab => Int.ofNat.inj hab) List.nodup_range
      rw [← aggM_partition sum_laws (fun r : Row => r.1) (rowNum k) _ hnd sel]
      simp only [List.map_map, Function.comp_def, fun j : Nat => hall (Int.ofNat j) (Int.natCast_nonneg j),
        List.filterMap_map, Val.toInt?, List.filterMap_eq_map', groupNums_sum, aggM]
    simp only [hall g hg, htotal]
  · cases h

example : lsumDev (lsum [1, 2, 6] / 3) [1, 2, 6] / (3 - 1) = 7 := by decide +kernel

/-- **`var` from three runs of the translated kernel**: feeding `varFrom` with the `sum_squares`, `sum` and `count`
slots written by the translated `_group_by_reduce` (run with the translated reducers) gives, for every group, the
two-pass sample variance of the group's non-null values - null when there are no more of them than `ddof` -/
theorem source_var_eq_two_pass (k : Kind) (n : Nat) (sel : List Row) (hwf : ∀ r ∈ sel, WF k r.2) (ddof : Nat)
    (g : Int) (hg : 0 ≤ g) :
    varFrom ((C03.srcRun .sumSquares k n sel).1 g) ((C03.srcRun .sum k n sel).1 g) ((C03.srcRun .count k n sel).1 g) ddof
      = (let xs : List Rat := toRats (groupNums k sel g)
        if xs.length ≤ ddof then none
        else some (lsumDev (lsum xs / (xs.length : Rat)) xs / ((xs.length : Rat) - (ddof : Rat)))) := by
  have e2 := congrArg Prod.fst (C03.srcRun_eq .sumSquares k n sel g hg)
  have e1 := congrArg Prod.fst (C03.srcRun_eq .sum k n sel g hg)
  have ec := congrArg Prod.fst (C03.srcRun_eq .count k n sel g hg)
  simp only at e2 e1 ec
  rw [C04.kernel_eq_def _ _ _ _ hg] at e2 e1 ec
  have hwfs : ∀ v ∈ valsOf sel g, WF k v := valsOf_wf hwf g
  rw [e2, e1, ec]
  simp only [spec_sum_num hwfs, spec_sumSq_num hwfs, spec_count_num hwfs, groupNums]
  exact varFrom_eq _ ddof

example :
    varFrom ((C03.srcRun .sumSquares .f 2 [(0, .num 1), (1, .num 5), (0, .num 3), (0, .nan)]).1 0)
      ((C03.srcRun .sum .f 2 [(0, .num 1), (1, .num 5), (0, .num 3), (0, .nan)]).1 0)
      ((C03.srcRun .count .f 2 [(0, .num 1), (1, .num 5), (0, .num 3), (0, .nan)]).1 0) 1 = some 2 := by decide +kernel

/-- `GroupBy.var` has the shape `varFrom` stands for (re-extracted from the AST of `core.py` on every run): the
one-pass formula `(sum_squares - sum ** 2 / count) / denominator` from three reductions, with the denominator
`count - ddof` where `count > ddof` and null elsewhere -/
theorem source_var_shape :
    Generated.Constants.varOnePassFormula = true ∧ Generated.Constants.varNullWhenCountLeDdof = true := by decide

end GV.C16
