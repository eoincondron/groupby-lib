import GroupbyVerif.Model.Effects
import GroupbyVerif.Generated.Effects

/-!
# C19 — Operations never modify their inputs and results do not alias them

Three layers.

1. `reach_mem_of_closed`: a certificate that contains the local writes and is closed under every call site
   over-approximates every write reachable through any chain of calls (induction over `Reach`).
2. On the table generated from the source (`Generated/Effects.lean`): the emitted certificate is closed and
   safe - evaluated by the kernel on a restatement of `closed` / `safe` that walks table and certificate once
   (`closed_eq`, `safe_eq`) -, hence **no public entry point can write through one of its parameters or store
   into a buffer of the grouping's state** (`public_entry_writes_no_input`).
3. The meaning of "no write reaches an input" on a heap model: a run whose stores only hit buffers allocated
   during the run leaves every pre-existing buffer as it was (`frame`), so the inputs survive, editing a
   returned (fresh) buffer afterwards cannot change them (`result_edit_keeps_inputs`), and a later identical
   call - a function of the input contents - returns the same result (`repeat_call_same_result`).

Everything here is declared in `GV.Eff`, the namespace of `Model/Effects.lean`: there is no `GV.C19`.
-/

namespace GV.Eff

theorem fn_out_of_range (t : Table) (f : Nat) (h : t.length ≤ f) : t.fn f = ⟨false, [], [], []⟩ := by
  unfold Table.fn
  simp [List.getD, List.getElem?_eq_none h]

/-- outside the table there is nothing to check, so `closed` speaks of every index -/
theorem closed_fn (t : Table) (W : Cert) (hc : closed t W = true) (f : Nat) : fnClosed t W f = true := by
  by_cases hf : f < t.length
  · exact List.all_eq_true.mp hc f (List.mem_range.mpr hf)
  · simp [fnClosed, fn_out_of_range t f (Nat.le_of_not_lt hf)]

/-- **soundness of the certificate check** -/
theorem reach_mem_of_closed (t : Table) (W : Cert) (hc : closed t W = true) {f : Nat} {w : Write}
    (hr : Reach t f w) : w ∈ W.at f := by
  induction hr with
  | @loc f w hw =>
    have h := closed_fn t W hc f
    simp only [fnClosed, Bool.and_eq_true, List.all_eq_true, List.contains_iff_mem] at h
    exact h.1 w hw
  | @call f c w' p al r k w hcall _ hb hp hal hpush ih =>
    have h := closed_fn t W hc f
    simp only [fnClosed, callClosed, Bool.and_eq_true, List.all_eq_true] at h
    have h5 := h.2 c hcall w' ih (p, al) hb
    simp only [hp, if_true, List.all_eq_true] at h5
    simpa [hpush] using h5 (r, k) hal

theorem safe_fn (t : Table) (W : Cert) (hs : safe t W = true) (f : Nat) (hp : (t.fn f).pub = true) :
    ∀ w ∈ W.at f, allowed (t.fn f) w = true := by
  by_cases hf : f < t.length
  · simpa [hp] using List.all_eq_true.mp hs f (List.mem_range.mpr hf)
  · rw [fn_out_of_range t f (Nat.le_of_not_lt hf)] at hp
    cases hp

theorem public_reach_allowed (t : Table) (W : Cert) (hc : closed t W = true) (hs : safe t W = true)
    (f : Nat) (hp : (t.fn f).pub = true) (w : Write) (hr : Reach t f w) : allowed (t.fn f) w = true :=
  safe_fn t W hs f hp w (reach_mem_of_closed t W hc hr)

/-! ## checking a table in one pass

`closed` and `safe` find row `f` of the table and of the certificate by position, for every `f`, and `closed`
finds the callee's row by position at every call site: quadratic in the length of the table.  Both are restated here with the two lists walked side by side
(`all₂`) and, for the callee, a search among the non-empty rows of the certificate only. -/

def all₂ {α β} (p : α → β → Bool) (b0 : β) : List α → List β → Bool
  | [], _ => true
  | a :: as, bs => p a (bs.headD b0) && all₂ p b0 as bs.tail

theorem all₂_eq {α β} (p : α → β → Bool) (a0 : α) (b0 : β) (as : List α) (bs : List β) :
    all₂ p b0 as bs = (List.range as.length).all fun i => p (as.getD i a0) (bs.getD i b0) := by
  induction as generalizing bs with
  | nil => rfl
  | cons a as ih =>
    rw [List.length_cons, List.range_succ_eq_map, List.all_cons, List.all_map, all₂, ih]
    cases bs <;> rfl

/-- the non-empty rows of a certificate, each with its index (the first row has index `k`) -/
def rowsFrom (k : Nat) : Cert → List (Nat × List Write)
  | [] => []
  | [] :: W => rowsFrom (k + 1) W
  | ws :: W => (k, ws) :: rowsFrom (k + 1) W

def certRow : List (Nat × List Write) → Nat → List Write
  | [], _ => []
  | (k, ws) :: S, g => if g = k then ws else certRow S g

theorem certRow_rowsFrom (W : Cert) (k g : Nat) :
    certRow (rowsFrom k W) g = if g < k then [] else W.getD (g - k) [] := by
  induction W generalizing k with
  | nil => exact (ite_self _).symm
  | cons ws W ih =>
    have e : certRow (rowsFrom k (ws :: W)) g = if g = k then ws else certRow (rowsFrom (k + 1) W) g := by
      cases ws with
      | cons w ws => rfl
      | nil =>
        show certRow (rowsFrom (k + 1) W) g = _
        by_cases hg : g = k
        · rw [if_pos hg, ih, if_pos (hg ▸ Nat.lt_succ_self g)]
        · rw [if_neg hg]
    rw [e, ih]
    rcases Nat.lt_or_ge g k with h | h
    · simp [h, Nat.ne_of_lt h, Nat.lt_succ_of_lt h]
    · obtain ⟨i, rfl⟩ := Nat.exists_eq_add_of_le h
      cases i <;> simp [Nat.add_sub_add_left, Nat.not_lt.mpr h]

theorem certRow_rows (W : Cert) (g : Nat) : certRow (rowsFrom 0 W) g = W.at g := by
  simp [certRow_rowsFrom, Cert.at]

/-- the body of `callClosed`, as a function of the caller's row, the callee's row and the binding -/
def callOk (Wf Wc : List Write) (binding : List (Nat × List (Nat × AKind))) : Bool :=
  Wc.all fun w' =>
    binding.all fun (p, al) =>
      if p = w'.root then
        al.all fun (r, k) =>
          match push r k w'.depth w'.mode with
          | some w => Wf.contains w
          | none => true
      else true

theorem closed_eq (t : Table) (W : Cert) :
    closed t W = all₂ (fun fn Wf => (fn.localWrites.all fun w => Wf.contains w) &&
      fn.calls.all fun c => callOk Wf (certRow (rowsFrom 0 W) c.callee) c.binding) [] t W := by
  simp only [certRow_rows]
  rw [all₂_eq (a0 := ⟨false, [], [], []⟩)]
  rfl

theorem safe_eq (t : Table) (W : Cert) :
    safe t W = all₂ (fun fn Wf => !fn.pub || Wf.all fun w => allowed fn w) [] t W := by
  rw [all₂_eq (a0 := ⟨false, [], [], []⟩)]
  rfl

/-! ## the table generated from the source -/

theorem generated_cert_closed : closed Gen.table Gen.cert = true := by rw [closed_eq]; decide +kernel

theorem generated_cert_safe : safe Gen.table Gen.cert = true := by rw [safe_eq]; decide +kernel

/-- **C19, static part**: in the current source no public entry point can (transitively) write through one of
its parameters - whatever the alias: the object, a view of its buffer, an element, or an array held in a
container argument - and none stores into a buffer held by the grouping's state; only object-level updates of
its own state (caches) remain -/
theorem public_entry_writes_no_input (f : Nat) (hp : (Gen.table.fn f).pub = true) (w : Write)
    (hr : Reach Gen.table f w) :
    (Gen.table.fn f).params.contains w.root = false ∧ w.mode = .obj := by
  have h := public_reach_allowed Gen.table Gen.cert generated_cert_closed generated_cert_safe f hp w hr
  unfold allowed at h
  rw [Bool.and_eq_true] at h
  refine ⟨by simpa using h.1, ?_⟩
  cases hm : w.mode with
  | buf => rw [hm] at h; simp at h
  | obj => rfl

/-- non-vacuity: the table has public entry points, writing kernels, and reachable writes -/
example : (Gen.table.filter (·.pub)).length > 50 := by decide +kernel
example : (Gen.cert.filter (fun l => !l.isEmpty)).length ≥ 4 := by decide +kernel

/-! ## what it means on a heap -/

abbrev Heap := List (List Int)

inductive Act
  | alloc (n : Nat)
  | store (b i : Nat) (v : Int)

def step (h : Heap) : Act → Heap
  | .alloc n => h ++ [List.replicate n 0]
  | .store b i v => h.modify b (fun buf => buf.set i v)

def run (h : Heap) (as : List Act) : Heap := as.foldl step h

/-- every store of the run hits a buffer with id ≥ `n0` (allocated by the library, not by the caller) -/
def StoresAbove (n0 : Nat) (as : List Act) : Prop :=
  ∀ a ∈ as, match a with
    | .store b _ _ => n0 ≤ b
    | .alloc _ => True

theorem step_frame (h : Heap) (a : Act) (n0 b : Nat) (hb : b < n0)
    (ha : match a with | .store b' _ _ => n0 ≤ b' | .alloc _ => True) (hlen : n0 ≤ h.length) :
    (step h a)[b]? = h[b]? ∧ n0 ≤ (step h a).length := by
  cases a with
  | alloc n =>
    exact ⟨List.getElem?_append_left (Nat.lt_of_lt_of_le hb hlen),
      by rw [step, List.length_append]; exact Nat.le_add_right_of_le hlen⟩
  | store b' i v =>
    have : b' ≠ b := Nat.ne_of_gt (Nat.lt_of_lt_of_le hb ha)
    exact ⟨by simp [step, this], by rw [step, List.length_modify]; exact hlen⟩

/-- **frame**: buffers that existed before the call and are never a store target are unchanged by it -/
theorem frame (as : List Act) (h : Heap) (n0 : Nat) (hs : StoresAbove n0 as) (hlen : n0 ≤ h.length) :
    ∀ b, b < n0 → (run h as)[b]? = h[b]? := by
  induction as generalizing h with
  | nil => intro b _; rfl
  | cons a as ih =>
    intro b hb
    have ha := hs a (List.mem_cons_self ..)
    have hst := step_frame h a n0 b hb ha hlen
    have := ih (step h a) (fun x hx => hs x (List.mem_cons_of_mem _ hx)) hst.2 b hb
    simp only [run, List.foldl_cons] at this ⊢
    rw [this, hst.1]

/-- the caller's `n0` input buffers, as contents -/
def inputs (n0 : Nat) (h : Heap) : List (Option (List Int)) := (List.range n0).map fun b => h[b]?

/-- a call followed by arbitrary edits of the returned (fresh: id ≥ n0) buffers leaves the inputs untouched -/
theorem result_edit_keeps_inputs (prog edits : List Act) (h : Heap) (n0 : Nat)
    (hp : StoresAbove n0 prog) (he : StoresAbove n0 edits) (hlen : n0 ≤ h.length) :
    inputs n0 (run (run h prog) edits) = inputs n0 h := by
  have : run (run h prog) edits = run h (prog ++ edits) := by simp [run, List.foldl_append]
  rw [this]
  refine List.map_congr_left fun b hb => frame _ _ _ (fun a ha => ?_) hlen b (List.mem_range.mp hb)
  exact (List.mem_append.mp ha).elim (hp a) (he a)

/-- an operation whose program and result are functions of the input contents returns the same result when it
is called again after the first result has been edited in place -/
theorem repeat_call_same_result {R : Type} (n0 : Nat) (prog : List (Option (List Int)) → List Act)
    (result : List (Option (List Int)) → R) (edits : List Act) (h : Heap)
    (hp : StoresAbove n0 (prog (inputs n0 h))) (he : StoresAbove n0 edits) (hlen : n0 ≤ h.length) :
    result (inputs n0 (run (run h (prog (inputs n0 h))) edits)) = result (inputs n0 h) := by
  rw [result_edit_keeps_inputs _ _ _ _ hp he hlen]

/-- the hypotheses are satisfiable: a call that allocates a target, fills it, and an edit of that result -/
example : StoresAbove 2 [Act.alloc 3, Act.store 2 0 7, Act.store 2 1 8] ∧
    inputs 2 (run [[1, 2], [3]] [Act.alloc 3, Act.store 2 0 7, Act.store 2 1 8]) = inputs 2 [[1, 2], [3]] := by
  constructor
  · intro a ha
    simp at ha
    rcases ha with rfl | rfl | rfl <;> simp
  · decide

/-- and a store into an input buffer is what the frame condition excludes: it does change the inputs -/
example : inputs 2 (run [[1, 2], [3]] [Act.store 0 0 9]) ≠ inputs 2 [[1, 2], [3]] := by decide

end GV.Eff
