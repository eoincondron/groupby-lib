import GroupbyVerif.Props.C04
import GroupbyVerif.Generated.Constants
import GroupbyVerif.Props.C03

/-!
# C07 — transform=True broadcasts exactly the per-group result

`_apply_gb_reduction` runs the kernel with `ngroups + 1` slots and fancy-indexes the per-group
array with the row codes: a null key (code −1) wraps to the extra trailing slot, which no row
ever writes.  (`normIdx` in the model and `normI` in the translated code are the same wrap.)
-/

namespace GV.C07
open GV

/-- transform: one value per input row, in input order (`result[group_ikey]` on an array of `ng + 1` slots) -/
def transformRows (p : Int → Partial) (ng : Nat) (codes : List Int) : List Val :=
  codes.map fun c => (p (normIdx (ng + 1) c)).1

/-- a slot no selected row carries is never written: it holds the initial (neutral) value with count 0 -/
theorem untouched_slot_neutral (red : Red) (init : Val) (rows : List Row) (g : Int) (hg : 0 ≤ g)
    (h : ∀ r ∈ rows, r.1 ≠ g) : groupByReduce red init rows g = (init, 0) := by
  rw [groupByReduce_at _ _ _ _ hg]
  have : valsOf rows g = [] := by
    simp only [valsOf, List.map_eq_nil_iff, List.filter_eq_nil_iff, decide_eq_true_eq]
    exact h
  rw [this]; rfl

theorem trailing_slot_neutral (red : Red) (init : Val) (ng : Nat) (sel : List Row) (hsel : ∀ r ∈ sel, r.1 < ng) :
    groupByReduce red init sel (ng : Int) = (init, 0) :=
  untouched_slot_neutral red init sel ng (Int.natCast_nonneg ng) fun r hr => Int.ne_of_lt (hsel r hr)

theorem normIdx_neg_one (n : Nat) : normIdx (n + 1) (-1) = (n : Int) := normI_neg_one n

/-- **transform = lookup**: the output has one entry per input row, in input order; a row with a valid
code gets the per-group definition over the selected rows of its group; a row with a null key
gets the neutral value of the trailing slot -/
theorem transform_eq_lookup (kn : Kernel) (k : Kind) (ng : Nat) (sel : List Row) (codes : List Int)
    (hsel : ∀ r ∈ sel, r.1 < ng) :
    let p := groupByReduce (kn.red modelReducers k) (kn.init k) sel
    (transformRows p ng codes).length = codes.length ∧
    ∀ (i : Nat) (c : Int), codes[i]? = some c →
      (0 ≤ c → (transformRows p ng codes)[i]? = some (specKernel kn k (valsOf sel c)).1) ∧
      (c = -1 → (transformRows p ng codes)[i]? = some (kn.init k)) := by
  intro p
  refine ⟨by simp [transformRows], ?_⟩
  intro i c hc
  constructor
  · intro h0
    have hn : normIdx (ng + 1) c = c := if_neg (Int.not_lt.mpr h0)
    simp only [transformRows, List.getElem?_map, hc, Option.map_some, hn]
    show some (groupByReduce (kn.red modelReducers k) (kn.init k) sel c).1 = _
    rw [C04.kernel_eq_def _ _ _ _ h0]
  · intro hm1
    subst hm1
    simp only [transformRows, List.getElem?_map, hc, Option.map_some, normIdx_neg_one]
    show some (groupByReduce (kn.red modelReducers k) (kn.init k) sel (ng : Int)).1 = _
    rw [trailing_slot_neutral _ _ ng sel hsel]

/-- a group without any selected row also shows the neutral value -/
theorem empty_group_neutral (kn : Kernel) (k : Kind) (sel : List Row) (g : Int) (hg : 0 ≤ g)
    (h : ∀ r ∈ sel, r.1 ≠ g) :
    groupByReduce (kn.red modelReducers k) (kn.init k) sel g = (kn.init k, 0) :=
  untouched_slot_neutral _ _ sel g hg h

/-- container rule (decision logic of `_apply_gb_reduction`): polars values in, polars out; otherwise pandas -/
inductive Container where
  | pandas | polars
deriving DecidableEq, Repr

def outContainer (allValuesPolars : Bool) (transform : Bool) : Container :=
  if allValuesPolars && transform then .polars else .pandas

theorem container_follows_input : outContainer true true = .polars ∧ outContainer false true = .pandas := by decide

example : transformRows (groupByReduce (Scalar.nansum .f) (.num 0) [(0, .num 1), (1, .num 5), (0, .num 2)]) 2 [0, 1, -1, 0]
    = [.num 3, .num 5, .num 0, .num 3] := by decide

/-- **transform = lookup, on the translated kernel**: fancy-indexing the `ngroups + 1` slots written by the translated
`_group_by_reduce` with the row codes (numpy's wrap of `-1` to the last slot) gives every row with a valid code the
per-group definition over the selected rows of its group, and every null-key row the untouched trailing slot's
initial value -/
theorem source_transform_eq_lookup (kn : Kernel) (k : Kind) (ng : Nat) (sel : List Row) (hsel : ∀ r ∈ sel, r.1 < ng)
    (c : Int) :
    let slots := (C03.srcRun kn k (ng + 1) sel).1
    (0 ≤ c → slots (normI ((ng + 1 : Nat) : Int) c) = (specKernel kn k (valsOf sel c)).1) ∧
    (c = -1 → slots (normI ((ng + 1 : Nat) : Int) c) = kn.init k) := by
  intro slots
  constructor
  · intro h0
    rw [normI_nonneg _ _ h0]
    have h := C03.srcRun_eq kn k (ng + 1) sel c h0
    rw [C04.kernel_eq_def _ _ _ _ h0] at h
    exact congrArg Prod.fst h
  · intro hm1
    subst hm1
    rw [normI_neg_one]
    have h := C03.srcRun_eq kn k (ng + 1) sel (ng : Int) (Int.natCast_nonneg ng)
    rw [trailing_slot_neutral _ _ ng sel hsel] at h
    exact congrArg Prod.fst h

example :
    let slots := (C03.srcRun .sum .f 3 [(0, .num 1), (1, .num 5), (0, .num 2)]).1
    ([0, 1, -1, 0].map fun c => slots (normI 3 c)) = [.num 3, .num 5, .num 0, .num 3] := by decide

/-- the Python around the kernels has the shape `transformRows` / `source_transform_eq_lookup` stand for (facts
re-extracted from the AST of `core.py` on every run): every kernel call gets `ngroups + 1` slots, also per key chunk
(`len(pointer) + 1`); the per-chunk results drop the null slot (`result[:-1]`, `counts[j][:-1]`) before they are merged
into a target of `len(result_index) + 1` slots; `transform=True` is `result[self.group_ikey]` -/
theorem source_transform_shape :
    Generated.Constants.kernelCallHasNullSlot = true ∧ Generated.Constants.chunkedKernelCallHasNullSlot = true ∧
    Generated.Constants.chunkedTargetHasNullSlot = true ∧ Generated.Constants.chunkResultsDropNullSlot = true ∧
    Generated.Constants.transformBroadcastsByCodes = true := by decide

end GV.C07
