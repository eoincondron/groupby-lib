import GroupbyVerif.Lemmas.Scan
import GroupbyVerif.Lemmas.Ring
import GroupbyVerif.Lemmas.RingMax
import GroupbyVerif.Generated.Constants
import GroupbyVerif.LoopBridge.RollingMax

/-!
# C09 — Rolling operations are per-group sliding-window reductions

The rolling loop is a `loopGo` (`Lemmas/Scan.lean`), so its output at a selected row is computed from the ring state of
the row's group after exactly that group's earlier selected rows; on one group the kernels meet the specification
through the ring invariants `RInv` and `MInv` (`Lemmas/Ring.lean`, `Lemmas/RingMax.lean`).  The `source_*` theorems
compose this with the bridges of `LoopBridge/Rolling.lean` / `RollingMax.lean` into statements about the translated kernels.
-/

namespace GV.C09
open GV

/-- output at row `i`: computed from the group's ring state folded over its selected prefix -/
theorem rollGo_at (k : Kind) (op : RollOp) (w minp : Nat) (st : Int → RS) (rows : List CRow) (i : Nat) (r : CRow)
    (hi : rows[i]? = some r) (hg : 0 ≤ r.code) (hs : r.sel = true) :
    (rollGo k op w minp st rows)[i]? =
      let before := (selVals (rows.take i) r.code).foldl (rollStep k op w) (st r.code)
      some (some (rollOut k op w minp before (rollStep k op w before r.val) r.val)) := by
  have hi' : (rows.map rollRow)[i]? = some (r.code, r.val) := by rw [List.getElem?_map, hi]; simp [rollRow, hs]
  rw [rollGo_eq_loopGo, loopGo_group _ _ _ _ i _ hi' hg, ← List.map_take, ← selVals_eq_rollRow _ _ hg]

/-! ### one group: the kernel's output on the history `hist ++ [v]`, `s` the state after `hist` -/

theorem sum_mean_out (k : Kind) (op : RollOp) (hop : op = .sum ∨ op = .mean) (w minp : Nat) (hw : 0 < w)
    (hist : List Val) (v : Val) (s : RS) (hs : s = hist.foldl (rollStep k op w) (rinit k w)) :
    rollOut k op w minp s (rollStep k op w s v) v = specRollAt k op w minp (hist ++ [v]) := by
  have hstep : rollStep k op w = rstep k w := by rcases hop with rfl | rfl <;> rfl
  rw [hstep] at hs ⊢
  have inv : RInv k w (hist ++ [v]) (rstep k w s v) := by
    have := rinv_fold k w hw (hist ++ [v]); rwa [List.foldl_append, ← hs] at this
  rcases hop with rfl | rfl <;>
    simp [rollOut, specRollAt, inv.sum, inv.nn, sumNN_eq, cntNN_eq]

theorem specRollAt_extremum (k : Kind) (b : Bool) (w minp : Nat) (hist : List Val) :
    specRollAt k (if b then .max else .min) w minp hist =
      if (nnInts k (lastN w hist)).length ≥ minp then
        (match extremum b (nnInts k (lastN w hist)) with | some m => .num m | none => .null) else .null := by
  cases b <;> rfl

theorem extremum_out (k : Kind) (b : Bool) (w minp : Nat) (hw : 0 < w) (hminp : 0 < minp) (hist : List Val) (v : Val)
    (hwf : ∀ x ∈ hist ++ [v], WF k x) (s : RS) (hs : s = hist.foldl (rollStep k (if b then .max else .min) w) (rinit k w)) :
    rollOut k (if b then .max else .min) w minp s (rollStep k (if b then .max else .min) w s v) v =
      specRollAt k (if b then .max else .min) w minp (hist ++ [v]) := by
  rw [rollStep_extremum] at hs ⊢
  have inv : MInv k w b (hist ++ [v]) (mstep k w b s v) := by
    have := minv_fold k w b hw (hist ++ [v]) hwf; rwa [List.foldl_append, ← hs] at this
  have hlen : (mstep k w b s v).nn = ((nnInts k (lastN w (hist ++ [v]))).length : Int) := by rw [inv.nn, nnInts_length]
  rw [rollOut_extremum, specRollAt_extremum, hlen]
  by_cases hge : (nnInts k (lastN w (hist ++ [v]))).length ≥ minp
  · -- at least `minp ≥ 1` non-null values: the kept extremum is a number and it is the window's extremum
    obtain ⟨m, hm1, hm2⟩ := inv.best (List.ne_nil_of_length_pos (Nat.lt_of_lt_of_le hminp hge))
    rw [if_pos (Int.ofNat_le.mpr hge), if_pos hge, hm1, (extremum_isExt b _ m).mpr hm2]
  · rw [if_neg (mt Int.ofNat_le.mp hge), if_neg hge]

theorem shift_diff_out (op : RollOp) (hop : op = .shift ∨ op = .diff) (w minp : Nat) (hw : 0 < w) (hist : List Val)
    (v : Val) (s : RS) (hs : s = hist.foldl (rollStep .f op w) (rinit .f w)) :
    rollOut .f op w minp s (rollStep .f op w s v) v = specRollAt .f op w minp (hist ++ [v]) := by
  have hstep : rollStep .f op w = rstep .f w := by rcases hop with rfl | rfl <;> rfl
  rw [hstep] at hs ⊢
  have r : RingBuf w hist s := hs ▸ (rinv_fold .f w hw hist).ring
  -- what the specification reads of `hist ++ [v]`, in the kernel's terms
  have hc : (hist ++ [v]).length > w ↔ s.nSeen ≥ w := by
    rw [List.length_append]; exact Nat.lt_succ_iff.trans r.full_iff.symm
  have hlen : (hist ++ [v]).length - 1 = hist.length := by
    rw [List.length_append]; exact Nat.add_sub_cancel _ _
  have hlast : (hist ++ [v]).getD hist.length .nan = v := by rw [getD_snoc, if_pos rfl]
  have hold : s.nSeen ≥ w → (hist ++ [v]).getD (hist.length - w) .nan = s.buf.getD s.pos (nullValue .f) := fun hf => by
    have hge := r.full_iff.mp hf
    have hlt : hist.length - w < hist.length := Nat.sub_lt (Nat.lt_of_lt_of_le hw hge) hw
    rw [getD_snoc, if_neg (Nat.ne_of_lt hlt), getD_eq_getElem _ _ hlt, r.oldest hw hge]
  -- on floats the kernel's `match` on the cell and the specification's `isNull` test agree, case by case
  rcases hop with rfl | rfl
  · simp only [rollOut, specRollAt, hc, hlen]
    by_cases hf : s.nSeen ≥ w
    · rw [if_pos hf, if_pos hf, hold hf]; cases s.buf.getD s.pos (nullValue .f) <;> rfl
    · rw [if_neg hf, if_neg hf]
  · simp only [rollOut, specRollAt, hc, hlen, hlast]
    by_cases hf : s.nSeen ≥ w
    · rw [if_pos hf, if_pos hf, hold hf]; cases v <;> cases s.buf.getD s.pos (nullValue .f) <;> rfl
    · rw [if_neg hf, if_neg hf]

/-- what the kernel `op` needs of a group's history to meet the specification: max / min need `min_periods ≥ 1`
(the kept extremum is stale while the window holds no non-null value) and cells of the column's kind;
shift / diff are stated in the float view (null = NaN) -/
def RollOK (k : Kind) (op : RollOp) (minp : Nat) (hist : List Val) : Prop :=
  match op with
  | .sum | .mean => True
  | .max | .min => 0 < minp ∧ ∀ x ∈ hist, WF k x
  | .shift | .diff => k = .f

/-- **every rolling operation is the window reduction of the row's own group** -/
theorem rolling_eq_window (k : Kind) (op : RollOp) (w minp : Nat) (hw : 0 < w) (rows : List CRow) (i : Nat) (r : CRow)
    (hi : rows[i]? = some r) (hg : 0 ≤ r.code) (hs : r.sel = true)
    (hok : RollOK k op minp (selVals (rows.take (i + 1)) r.code)) :
    (rolling k op w minp rows)[i]? = some (some (specRollAt k op w minp (selVals (rows.take (i + 1)) r.code))) := by
  rw [selVals_take_succ rows i r hi hs] at hok ⊢
  rw [rolling, rollGo_at k op w minp _ rows i r hi hg hs]
  refine congrArg (fun c => some (some c)) ?_
  cases op with
  | sum => exact sum_mean_out k .sum (.inl rfl) w minp hw _ _ _ rfl
  | mean => exact sum_mean_out k .mean (.inr rfl) w minp hw _ _ _ rfl
  | min => exact extremum_out k false w minp hw hok.1 _ _ hok.2 _ rfl
  | max => exact extremum_out k true w minp hw hok.1 _ _ hok.2 _ rfl
  | shift => cases hok; exact shift_diff_out .shift (.inl rfl) w minp hw _ _ _ rfl
  | diff => cases hok; exact shift_diff_out .diff (.inr rfl) w minp hw _ _ _ rfl

/-- **rolling sum** (and the `min_periods` rule): at every selected row, the sum of the non-null
values among the last `window` selected rows of the same group, null unless ≥ `min_periods` are non-null -/
theorem rolling_sum_eq_window (k : Kind) (w minp : Nat) (hw : 0 < w) (rows : List CRow) (i : Nat) (r : CRow)
    (hi : rows[i]? = some r) (hg : 0 ≤ r.code) (hs : r.sel = true) :
    (rolling k .sum w minp rows)[i]? = some (some (specRollAt k .sum w minp (selVals (rows.take (i + 1)) r.code))) :=
  rolling_eq_window k .sum w minp hw rows i r hi hg hs trivial

/-- **rolling mean** = window sum / window non-null count, same `min_periods` rule -/
theorem rolling_mean_eq_window (k : Kind) (w minp : Nat) (hw : 0 < w) (rows : List CRow) (i : Nat) (r : CRow)
    (hi : rows[i]? = some r) (hg : 0 ≤ r.code) (hs : r.sel = true) :
    (rolling k .mean w minp rows)[i]? = some (some (specRollAt k .mean w minp (selVals (rows.take (i + 1)) r.code))) :=
  rolling_eq_window k .mean w minp hw rows i r hi hg hs trivial

theorem rollOK_extremum (k : Kind) (wantMax : Bool) (minp : Nat) (hminp : 0 < minp) (rows : List CRow)
    (hwf : ∀ r ∈ rows, WF k r.val) (n : Nat) (g : Int) :
    RollOK k (if wantMax then .max else .min) minp (selVals (rows.take n) g) := by
  have hwf' : ∀ x ∈ selVals (rows.take n) g, WF k x := fun x hx => by
    obtain ⟨r', hr', rfl⟩ := List.mem_map.mp hx
    exact hwf r' ((List.take_sublist _ _).subset (List.mem_filter.mp hr').1)
  cases wantMax <;> exact ⟨hminp, hwf'⟩

/-- **rolling max / min**: at every selected row, the greatest / least non-null value among the last `window`
selected rows of the same group (null unless ≥ `min_periods` ≥ 1 of them are non-null) - through the
incremental update, the replacement by a better value and the recomputation from the circular buffer -/
theorem rolling_extremum_eq_window (k : Kind) (wantMax : Bool) (w minp : Nat) (hw : 0 < w) (hminp : 0 < minp) (rows : List CRow)
    (hwf : ∀ r ∈ rows, WF k r.val) (i : Nat) (r : CRow)
    (hi : rows[i]? = some r) (hg : 0 ≤ r.code) (hs : r.sel = true) :
    (rolling k (if wantMax then .max else .min) w minp rows)[i]? =
      some (some (specRollAt k (if wantMax then .max else .min) w minp (selVals (rows.take (i + 1)) r.code))) :=
  rolling_eq_window k _ w minp hw rows i r hi hg hs (rollOK_extremum k wantMax minp hminp rows hwf _ _)

theorem rolling_max_eq_window (k : Kind) (w minp : Nat) (hw : 0 < w) (hminp : 0 < minp) (rows : List CRow)
    (hwf : ∀ r ∈ rows, WF k r.val) (i : Nat) (r : CRow) (hi : rows[i]? = some r) (hg : 0 ≤ r.code) (hs : r.sel = true) :
    (rolling k .max w minp rows)[i]? = some (some (specRollAt k .max w minp (selVals (rows.take (i + 1)) r.code))) :=
  rolling_extremum_eq_window k true w minp hw hminp rows hwf i r hi hg hs

theorem rolling_min_eq_window (k : Kind) (w minp : Nat) (hw : 0 < w) (hminp : 0 < minp) (rows : List CRow)
    (hwf : ∀ r ∈ rows, WF k r.val) (i : Nat) (r : CRow) (hi : rows[i]? = some r) (hg : 0 ≤ r.code) (hs : r.sel = true) :
    (rolling k .min w minp rows)[i]? = some (some (specRollAt k .min w minp (selVals (rows.take (i + 1)) r.code))) :=
  rolling_extremum_eq_window k false w minp hw hminp rows hwf i r hi hg hs

/-- **shift / diff** (float view: null = NaN): at every selected row the value `window` selected rows of the same
group earlier (null before there are that many), resp. the difference to it (null if either side is null) -/
theorem rolling_shift_diff_eq_window (op : RollOp) (hop : op = .shift ∨ op = .diff) (w minp : Nat) (hw : 0 < w) (rows : List CRow)
    (i : Nat) (r : CRow) (hi : rows[i]? = some r) (hg : 0 ≤ r.code) (hs : r.sel = true) :
    (rolling .f op w minp rows)[i]? = some (some (specRollAt .f op w minp (selVals (rows.take (i + 1)) r.code))) :=
  rolling_eq_window .f op w minp hw rows i r hi hg hs (by rcases hop with rfl | rfl <;> rfl)

/-- the slot about to be overwritten holds the value `window` group-rows earlier -/
theorem slot_is_kth_previous (k : Kind) (w : Nat) (hw : 0 < w) (hist : List Val) (hge : w ≤ hist.length) :
    let s := hist.foldl (rstep k w) (rinit k w)
    s.nSeen ≥ w ∧ s.buf.getD s.pos (nullValue k) = hist[hist.length - w]'(by omega) :=
  have r := (rinv_fold k w hw hist).ring
  ⟨r.full_iff.mpr hge, r.oldest hw hge _⟩

/-- before `window` rows of the group have been seen, shift and diff are null -/
theorem shift_null_until_window (k : Kind) (w : Nat) (hw : 0 < w) (hist : List Val) (hlt : hist.length < w) :
    (hist.foldl (rstep k w) (rinit k w)).nSeen < w :=
  Nat.lt_of_not_le (mt (rinv_fold k w hw hist).ring.full_iff.mp (Nat.not_le_of_lt hlt))

/-- source facts the model relies on: the loops skip null keys; the ring counters are wide enough
for every window below 2^15 (the dtype the source allocates, extracted by the translator) -/
theorem source_facts :
    Generated.Constants.guardRollSum = true ∧ Generated.Constants.guardRollMax = true ∧
    Generated.Constants.guardRollShift = true ∧
    16 ≤ Generated.Constants.rollSumPosWidth ∧ 16 ≤ Generated.Constants.rollSumSeenWidth ∧
    16 ≤ Generated.Constants.rollSumNonNullWidth ∧ 16 ≤ Generated.Constants.rollMaxPosWidth ∧
    16 ≤ Generated.Constants.rollMaxSeenWidth ∧ 16 ≤ Generated.Constants.rollMaxNonNullWidth ∧
    16 ≤ Generated.Constants.rollShiftPosWidth ∧ 16 ≤ Generated.Constants.rollShiftCountWidth := by decide

/-- non-vacuity: interleaved groups, a null, a null key, window 2 -/
example : rolling .f .sum 2 1
    [⟨0, .num 1, true⟩, ⟨1, .num 5, true⟩, ⟨-1, .num 9, true⟩, ⟨0, .nan, true⟩, ⟨0, .num 7, true⟩, ⟨0, .num 2, true⟩]
    = [some (.num 1), some (.num 5), none, some (.num 1), some (.num 7), some (.num 9)] := by decide

/-! ### the translated loops, end to end

`Generated.Loops.rolling_sum_or_mean` / `rolling_shift_or_diff` / `rolling_max_or_min` are regenerated from
`groupby_lib/groupby/numba.py` on every run; `LoopBridge/Rolling.lean` and `LoopBridge/RollingMax.lean` prove them equal
to the ring-buffer models.  The mean's division is an uninterpreted function `divf` (IEEE division is outside the
model): the cell holds `divf (window sum) (window non-null count)`.  `min_periods = None` stands for `window`: the
kernel gets `minp.isSome` and `minp.getD 0`, the specification `minp.getD w`.  `ng` (`ngroups`) and `ml` (the mask's
length) are free: arrays are total functions in the translation, so they size and bound nothing. -/

/-- **the translated `_rolling_sum_or_mean_1d` computes the sliding-window sum / mean of the source's own rows**: at
every selected row with a non-null key, the reduction of the non-null values among the last `window` selected rows of
the same group ending at that row, `null_value` unless at least `min_periods` of them are non-null -/
theorem source_rolling_sum_mean_eq_window (k : Kind) (divf : Val → Int → Val) (op : RollOp) (hop : op = .sum ∨ op = .mean)
    (w : Nat) (hw : 0 < w) (minp : Option Nat) (codes : List Int) (chunks : List (List Val)) (msk : List Bool)
    (masked : Bool) (ng ml : Int) (nullv : Val) (hlen : codes.length = chunks.flatten.length)
    (hwf : ∀ v ∈ chunks.flatten, LoopBridge.NumOrNull k v) (hnv : LoopBridge.NumOrNull k nullv)
    (hnull : nullv = nullValue k) (i : Nat) (hi : i < codes.length) (hg : 0 ≤ codes.getD i 0)
    (hs : (masked && !(msk.getD i true)) = false) :
    (Generated.Loops.rolling_sum_or_mean k divf codes.length (arrOf codes 0) chunks ng w minp.isSome (minp.getD 0)
      masked ml (arrOf msk true) nullv (decide (op = .mean))).1 (i : Int) = LoopBridge.cellVal divf nullv
      (specRollAt k op w (minp.getD w)
        (selVals ((LoopBridge.cumRows codes chunks.flatten masked msk).take (i + 1)) (codes.getD i 0))) := by
  -- `hnv` follows from `hnull`: every `nullValue k` is a number or null
  have h := (LoopBridge.rolling_sum_or_mean_eq k divf op hop w hw minp codes chunks msk masked ng ml nullv hlen hwf hnv
    hnull).2 i hi
  have hspec := rolling_eq_window k op w (minp.getD w) hw _ i _
    (LoopBridge.cumRows_getElem codes chunks.flatten masked msk i hi) hg (by rw [hs]; rfl) (by rcases hop with rfl | rfl <;> trivial)
  rw [h, LoopBridge.cellAt, hspec]

/-- **the translated `_rolling_shift_or_diff_1d`** (float view): the value `window` selected group-rows earlier, resp.
the difference to it -/
theorem source_rolling_shift_diff_eq_window (op : RollOp) (hop : op = .shift ∨ op = .diff) (w : Nat) (hw : 0 < w)
    (codes : List Int) (chunks : List (List Val)) (msk : List Bool) (masked : Bool) (ng ml : Int)
    (hlen : codes.length = chunks.flatten.length) (i : Nat) (hi : i < codes.length) (hg : 0 ≤ codes.getD i 0)
    (hs : (masked && !(msk.getD i true)) = false) :
    (Generated.Loops.rolling_shift_or_diff .f codes.length (arrOf codes 0) chunks ng w masked ml (arrOf msk true)
      (nullValue .f) (decide (op = .shift))).1 (i : Int) = LoopBridge.cellVal (fun a _ => a) (nullValue .f)
      (specRollAt .f op w 0
        (selVals ((LoopBridge.cumRows codes chunks.flatten masked msk).take (i + 1)) (codes.getD i 0))) := by
  -- the bridge asks that a NaN value occurs only with a NaN null marker: in the float view the marker is NaN
  have h := (LoopBridge.rolling_shift_or_diff_eq .f op hop w hw 0 codes chunks msk masked ng ml hlen
    (fun _ _ _ => rfl)).2 i hi
  have hspec := rolling_shift_diff_eq_window op hop w 0 hw _ i _
    (LoopBridge.cumRows_getElem codes chunks.flatten masked msk i hi) hg (by rw [hs]; rfl)
  rw [h, LoopBridge.cellAt, hspec]

/-- **the translated `_rolling_max_or_min_1d` (with the translated helper `min_or_max_and_position`) computes the
sliding-window extremum**: at every selected row with a non-null key the largest / smallest non-null value among the
last `window` selected rows of the same group, `null_value` unless at least `min_periods >= 1` of them are non-null;
the kernel raises nothing and the helper's `while` loop stays within its bound -/
theorem source_rolling_max_min_eq_window (k : Kind) (wantMax : Bool) (w : Nat) (hw : 0 < w) (minp : Option Nat)
    (hminp : 0 < minp.getD w) (codes : List Int) (chunks : List (List Val)) (msk : List Bool) (masked : Bool) (ng ml : Int)
    (hlen : codes.length = chunks.flatten.length) (hwf : ∀ v ∈ chunks.flatten, WF k v)
    (hnan : ∀ v ∈ chunks.flatten, v = .nan → nullValue k = .nan)
    (i : Nat) (hi : i < codes.length) (hg : 0 ≤ codes.getD i 0) (hs : (masked && !(msk.getD i true)) = false) :
    let r := Generated.Loops.rolling_max_or_min k codes.length (arrOf codes 0) chunks ng w minp.isSome (minp.getD 0) masked ml
      (arrOf msk true) (nullValue k) wantMax
    r.2 = false ∧ r.1 (i : Int) = LoopBridge.cellVal (fun a _ => a) (nullValue k)
      (specRollAt k (if wantMax then RollOp.max else RollOp.min) w (minp.getD w)
        (selVals ((LoopBridge.cumRows codes chunks.flatten masked msk).take (i + 1)) (codes.getD i 0))) := by
  intro r
  have hb := LoopBridge.rolling_max_or_min_eq k wantMax w hw minp codes chunks msk masked ng ml hlen hnan
  have hwf' : ∀ r ∈ LoopBridge.cumRows codes chunks.flatten masked msk, WF k r.val := fun r hr => by
    obtain ⟨j, hj, rfl⟩ := List.mem_map.mp hr
    have hjl : j < chunks.flatten.length := hlen ▸ List.mem_range.mp hj
    simpa only [getD_eq_getElem _ _ hjl] using hwf _ (List.getElem_mem hjl)
  have hspec := rolling_extremum_eq_window k wantMax w (minp.getD w) hw hminp _ hwf' i _
    (LoopBridge.cumRows_getElem codes chunks.flatten masked msk i hi) hg (by rw [hs]; rfl)
  exact ⟨hb.1, by rw [hb.2 i hi, LoopBridge.cellAt, hspec]⟩

/-- non-vacuity: rolling sum, window 2, two groups, a NaN, a null key, two chunks -/
example :
    let r := Generated.Loops.rolling_sum_or_mean .f (fun a _ => a) 6 (arrOf [0, 1, 0, -1, 0, 1] 0)
      [[.num 1, .num 10, .nan], [.num 7, .num 4, .num 20]] 2 2 true 1 false 0 (arrOf [] true) .nan false
    ((List.range 6).map fun (j : Nat) => r.1 (j : Int)) = [.num 1, .num 10, .num 1, .nan, .num 4, .num 30] := by decide

/-- non-vacuity: rolling max, window 2: the extremum leaves the window and the buffer is rescanned by the helper -/
example :
    let r := Generated.Loops.rolling_max_or_min .f 6 (arrOf [0, 0, 0, 1, 0, 0] 0)
      [[.num 9, .num 2, .num 1], [.num 5, .nan, .num 0]] 2 2 true 1 false 0 (arrOf [] true) .nan true
    (((List.range 6).map fun (j : Nat) => r.1 (j : Int)), r.2) = ([.num 9, .num 9, .num 2, .num 5, .num 1, .num 0], false) := by
  decide

end GV.C09
