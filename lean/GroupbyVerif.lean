import GroupbyVerif.Model.Val
import GroupbyVerif.Model.Scalar
import GroupbyVerif.Model.Arr
import GroupbyVerif.Model.Kernels
import GroupbyVerif.Model.Spec
import GroupbyVerif.Model.GenTable
import GroupbyVerif.Model.Proto
import GroupbyVerif.Model.Align
import GroupbyVerif.Model.Effects
import GroupbyVerif.Model.Facade
import GroupbyVerif.Bridge
import GroupbyVerif.LoopBridge.IsNull
import GroupbyVerif.Props.C04
import GroupbyVerif.Props.C01
import GroupbyVerif.Props.C02
import GroupbyVerif.Props.C15
import GroupbyVerif.Props.C08
import GroupbyVerif.Props.C09
import GroupbyVerif.Props.C10
import GroupbyVerif.Props.C03
import GroupbyVerif.Props.C05
import GroupbyVerif.Props.C06
import GroupbyVerif.Props.C07
import GroupbyVerif.Props.C13
import GroupbyVerif.Props.C20
import GroupbyVerif.Props.C16
import GroupbyVerif.Props.C14
import GroupbyVerif.Props.C11
import GroupbyVerif.Props.C18
import GroupbyVerif.Props.C19
import GroupbyVerif.Props.C12
import GroupbyVerif.Props.C17
